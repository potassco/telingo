import Lean.Meta.Tactic.Simp.RegisterCommand

/-- The rules that decide `NoInternal` by the shape of a program: a value, a raised error, a bind, a conditional; and
the facts `NoInternal (f x)` already proved. -/
register_simp_attr noint

/-- The equations that take `gringoOK tbl (.fn name [a, b]) = true` apart into the arity of `name` and `gringoOK` of each
argument (tagged in `NoInternal`). -/
register_simp_attr gringo
