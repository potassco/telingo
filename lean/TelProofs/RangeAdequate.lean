/-
C04 (a'), range adequacy: the time ranges that `transformers/head.py` computes for the atoms of a head formula (from which
the domain rule is built that makes those atoms known to the grounder) cover every atom that the step-wise translation of
`theory/head.py` can put into the head of a rule: if an atom stands at the top level of a clause of the formula shifted by
`d` steps, then `d` lies in one of the ranges computed for that atom (`range_adequate`, `emitted_heads_in_ranges`; both are
cases of `ranges_cover`, whose statement is the one that goes through the induction).
-/
import TelProofs.HeadShift

namespace TelProofs
open TelModel

/-- atoms that can end up in the head of an emitted rule: those at the top level of the clauses -/
def topAtoms : HForm → List String
  | .atom p n a => [hkey p n a]
  | .clause2 l r _ => topAtoms l ++ topAtoms r
  | _ => []

theorem unfold_atoms {f : HForm} {c : List HForm} {p : Bool} {n : String} {a : List Sym} (hc : c ∈ unfoldF f)
    (hx : .atom p n a ∈ c) : hkey p n a ∈ topAtoms f := by
  induction f generalizing c with
  | clause2 l r cj ihl ihr =>
    obtain ⟨c', hc' | hc', hx'⟩ := mem_unfoldF_clause2 hc hx
    · exact List.mem_append_left _ (ihl hc' hx')
    · exact List.mem_append_right _ (ihr hc' hx')
  | atom p' n' a' =>
    obtain rfl := List.mem_singleton.mp hc
    cases List.mem_singleton.mp hx
    exact List.mem_singleton_self _
  | _ =>
    obtain rfl := List.mem_singleton.mp hc
    cases List.mem_singleton.mp hx

theorem covers_le {lo x : Nat} {ray : Bool} (h : TRange.covers ⟨lo, ray⟩ x) : lo ≤ x := by
  cases ray
  · exact Nat.le_of_eq h
  · exact h

theorem rangesH_lo (f : HForm) :
    ∀ (lo : Nat) (ray : Bool), ∀ kr ∈ rangesH lo ray f, lo ≤ kr.2.lo ∧ (ray = true → kr.2.ray = true) := by
  induction f with
  | atom p n a =>
    intro lo ray kr h
    obtain rfl := List.mem_singleton.mp h
    exact ⟨Nat.le_refl lo, id⟩
  | next n f w ih =>
    exact fun lo ray kr h => ⟨Nat.le_trans (Nat.le_add_right lo n) (ih (lo + n) ray kr h).1, (ih (lo + n) ray kr h).2⟩
  | until2 l r u ihl ihr =>
    intro lo ray kr h
    have := (List.mem_append.mp h).elim (ihl lo true kr) (ihr lo true kr)
    exact ⟨this.1, fun _ => this.2 rfl⟩
  | until1 r u ih => exact fun lo ray kr h => ⟨(ih lo true kr h).1, fun _ => (ih lo true kr h).2 rfl⟩
  | clause2 l r c ihl ihr => exact fun lo ray kr h => (List.mem_append.mp h).elim (ihl lo ray kr) (ihr lo ray kr)
  | neg | const | shift => exact fun _ _ _ h => nomatch h

/-- a `next` contributes head atoms only once the shift has reached its target -/
theorem topAtoms_shiftF_next {s n : Nat} {f : HForm} {w : Bool} {k : String}
    (hk : k ∈ topAtoms (shiftF s (.next n f w))) : ∃ _ : n ≤ s, k ∈ topAtoms (shiftF (s - n) f) := by
  rw [shiftF] at hk
  split at hk
  · next hn => exact ⟨hn, hk⟩
  · cases hk

/-- Stated for every point the base moved by `e` covers, not only for `lo + e`: under an unbounded operator these are all
    later points as well, which is what lets an `until` recur on itself at the distance before. -/
theorem ranges_cover : ∀ (e : Nat) (f : HForm) (lo : Nat) (ray : Bool) (k : String) (x : Nat),
    k ∈ topAtoms (shiftF e f) → TRange.covers ⟨lo + e, ray⟩ x → ∃ r, (k, r) ∈ rangesH lo ray f ∧ r.covers x := by
  intro e f
  induction e, f using shiftF_induct with
  | atom s p n a =>
    intro lo ray k x hk hx
    rw [shiftF] at hk
    split at hk
    · subst s
      obtain rfl := List.mem_singleton.mp hk
      exact ⟨⟨lo, ray⟩, List.mem_singleton_self _, hx⟩
    · cases hk
  | next s n f w ih =>
    intro lo ray k x hk hx
    obtain ⟨hn, hk⟩ := topAtoms_shiftF_next hk
    exact ih hn (lo + n) ray k x hk (by rwa [Nat.add_assoc, Nat.add_sub_of_le hn])
  | until2 s l r u ihl ihr _ ihs =>
    intro lo ray k x hk hx
    -- the ranges of the parts are rays, whatever `ray` is
    have hle : lo + s ≤ x := covers_le hx
    have hle1 : lo + (s - 1) ≤ x := Nat.le_trans (Nat.add_le_add_left (Nat.sub_le s 1) lo) hle
    rw [shiftF_until2] at hk
    rcases List.mem_append.mp hk with h | h
    · exact (ihr lo true k x h hle).imp fun _ => And.imp_left (List.mem_append_right _)
    rcases List.mem_append.mp h with h | h
    · exact (ihl lo true k x h hle).imp fun _ => And.imp_left (List.mem_append_left _)
    · obtain ⟨hs, h⟩ := topAtoms_shiftF_next h
      exact ihs hs lo true k x h hle1
  | until1 s r u ihr _ ihs =>
    intro lo ray k x hk hx
    have hle : lo + s ≤ x := covers_le hx
    have hle1 : lo + (s - 1) ≤ x := Nat.le_trans (Nat.add_le_add_left (Nat.sub_le s 1) lo) hle
    rw [shiftF_until1] at hk
    rcases List.mem_append.mp hk with h | h
    · exact ihr lo true k x h hle
    · obtain ⟨hs, h⟩ := topAtoms_shiftF_next h
      exact ihs hs lo true k x h hle1
  | clause2 s l r c ihl ihr =>
    intro lo ray k x hk hx
    rw [shiftF] at hk
    rcases List.mem_append.mp hk with h | h
    · exact (ihl lo ray k x h hx).imp fun _ => And.imp_left (List.mem_append_left _)
    · exact (ihr lo ray k x h hx).imp fun _ => And.imp_left (List.mem_append_right _)
  | neg | const | shift =>
    intro lo ray k x hk
    rw [shiftF] at hk
    cases hk

theorem range_adequate : ∀ (e : Nat) (f : HForm) (lo : Nat) (ray : Bool) (k : String), k ∈ topAtoms (shiftF e f) →
      ∃ r, (k, r) ∈ rangesH lo ray f ∧ r.covers (lo + e) := by
  intro e f lo ray k hk
  refine ranges_cover e f lo ray k (lo + e) hk ?_
  cases ray
  · exact rfl
  · exact Nat.le_refl _

theorem emitted_heads_in_ranges (d : Nat) (f : HForm) (c : List HForm) (hc : c ∈ unfoldF (shiftF d f))
    (p : Bool) (n : String) (a : List Sym) (hx : HForm.atom p n a ∈ c) :
    ∃ r, (hkey p n a, r) ∈ rangesH 0 false f ∧ r.covers d := by
  have := range_adequate d f 0 false (hkey p n a) (unfold_atoms hc hx)
  rwa [Nat.zero_add] at this

end TelProofs
