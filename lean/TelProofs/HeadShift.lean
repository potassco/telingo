/-
C04 (b), (c): shifting a head formula to a later step and distributing it into clauses preserve its
temporal here-and-there meaning.

`hsem` is THT satisfaction of code-level head formulas; a `TelShift n x` is read *plainly* here (as "x, n
states from now", strong), i.e. without the double negation the translation gives it.  That the double
negation is admissible for the parts of a formula that lie at other time points is the time-stratified
shifting lemma (`TelProofs/Meta/Shift.lean`).
-/
import TelModel.Head
import TelProofs.Quant
import TelProofs.ListLemmas

namespace TelProofs
open TelSpec TelModel

def hsem (h : Nat) (W T : Trace) : HForm → Nat → Bool
  | .atom p n a, k => W k (atomKey n a p)
  | .next n f w, k => if k + n ≤ h then hsem h W T f (k + n) else w
  | .until2 l r true, k => untilB h (hsem h W T l) (hsem h W T r) k
  | .until2 l r false, k => releaseB h (hsem h W T l) (hsem h W T r) k
  | .until1 r true, k => evFB h (hsem h W T r) k
  | .until1 r false, k => alFB h (hsem h W T r) k
  | .clause2 l r true, k => hsem h W T l k && hsem h W T r k
  | .clause2 l r false, k => hsem h W T l k || hsem h W T r k
  | .neg f, k => !(hsem h T T f k)
  | .const b, _ => b
  | .shift n f, k =>
    if 0 ≤ n then (if k + n.toNat ≤ h then hsem h W T f (k + n.toNat) else false)
    else (if (-n).toNat ≤ k then hsem h W T f (k - (-n).toNat) else false)

theorem hsem_clause (h W T) (l r : HForm) (c : Bool) (k : Nat) :
    hsem h W T (.clause2 l r c) k = if c then hsem h W T l k && hsem h W T r k else hsem h W T l k || hsem h W T r k := by
  cases c <;> rfl

theorem hsem_until2 (h W T) (l r : HForm) (u : Bool) (k : Nat) :
    hsem h W T (.until2 l r u) k =
      if u then untilB h (hsem h W T l) (hsem h W T r) k else releaseB h (hsem h W T l) (hsem h W T r) k := by
  cases u <;> rfl

theorem hsem_until1 (h W T) (r : HForm) (u : Bool) (k : Nat) :
    hsem h W T (.until1 r u) k = if u then evFB h (hsem h W T r) k else alFB h (hsem h W T r) k := by
  cases u <;> rfl

theorem hsem_next (h W T) (n : Nat) (f : HForm) (w : Bool) (k : Nat) :
    hsem h W T (.next n f w) k = if k + n ≤ h then hsem h W T f (k + n) else w := rfl

theorem hsem_shift_fwd (h W T) {n : Int} (hn : 0 ≤ n) (f : HForm) (k : Nat) :
    hsem h W T (.shift n f) k = if k + n.toNat ≤ h then hsem h W T f (k + n.toNat) else false :=
  if_pos hn

theorem hsem_shift_bwd (h W T) {n : Int} (hn : ¬ 0 ≤ n) (f : HForm) (k : Nat) :
    hsem h W T (.shift n f) k = if (-n).toNat ≤ k then hsem h W T f (k - (-n).toNat) else false :=
  if_neg hn

theorem hsem_shift_zero (h W T) (f : HForm) (k : Nat) (hk : k ≤ h) :
    hsem h W T (.shift 0 f) k = hsem h W T f k := by
  rw [hsem_shift_fwd h W T (Int.le_refl 0), Int.toNat_zero, Nat.add_zero, if_pos hk]

theorem hsem_shift_back (h W T) (s : Nat) (f : HForm) (k : Nat) (hk : k + s ≤ h) :
    hsem h W T (.shift (-(s : Int)) f) (k + s) = hsem h W T f k := by
  cases s with
  | zero => exact hsem_shift_zero h W T f k hk
  | succ s =>
    have hneg : ¬ (0 ≤ -((s + 1 : Nat) : Int)) := by omega
    rw [hsem_shift_bwd h W T hneg, Int.neg_neg, Int.toNat_natCast, if_pos (Nat.le_add_left _ _), Nat.add_sub_cancel]

/-- the one-step expansions `r ∨ (l ∧ ○(l U r))` and `r ∧ (l ∨ ○(l R r))` (weak next), in the form in which `shiftF`
    emits them -/
theorem hsem_until2_step (h W T) (l r : HForm) (u : Bool) (k : Nat) (hk : k ≤ h) :
    hsem h W T (.until2 l r u) k =
      hsem h W T (.clause2 r (.clause2 l (.next 1 (.until2 l r u) (!u)) u) (!u)) k := by
  cases u
  · exact releaseB_unfold h _ _ k hk
  · exact untilB_unfold h _ _ k hk

theorem hsem_until1_step (h W T) (r : HForm) (u : Bool) (k : Nat) (hk : k ≤ h) :
    hsem h W T (.until1 r u) k = hsem h W T (.clause2 r (.next 1 (.until1 r u) (!u)) (!u)) k := by
  cases u
  · exact alFB_unfold h _ k hk
  · exact evFB_unfold h _ k hk

/-- formulas as `create_formula` builds them: no `TelShift` inside -/
def noShift : HForm → Bool
  | .atom _ _ _ => true
  | .next _ f _ => noShift f
  | .until2 l r _ => noShift l && noShift r
  | .until1 r _ => noShift r
  | .clause2 l r _ => noShift l && noShift r
  | .neg f => noShift f
  | .const _ => true
  | .shift _ _ => false

/-- `ShiftFormula.visit_TelUntil` as the code has it: the one-step expansion of the formula, shifted (`shiftF` has the
    `next 1` case inlined, which makes its recursion terminate evidently) -/
theorem shiftF_until2 (s : Nat) (l r : HForm) (u : Bool) :
    shiftF s (.until2 l r u) =
      .clause2 (shiftF s r) (.clause2 (shiftF s l) (shiftF s (.next 1 (.until2 l r u) (!u))) u) (!u) := by
  cases s <;> simp [shiftF]

theorem shiftF_until1 (s : Nat) (r : HForm) (u : Bool) :
    shiftF s (.until1 r u) = .clause2 (shiftF s r) (shiftF s (.next 1 (.until1 r u) (!u))) (!u) := by
  cases s <;> simp [shiftF]

/-- Induction along the recursion of `shiftF`.  It is structural in the formula, except that `next` hands the
    remaining distance down and that an `until`/`release` is shifted as its one-step expansion (`shiftF_until2`): its
    recursive call is the one of `next 1` of the formula.  The case has the claim for that call and, through the
    `next` case, for `next 1` of the formula. -/
theorem shiftF_induct {motive : Nat → HForm → Prop}
    (atom : ∀ s p n a, motive s (.atom p n a))
    (next : ∀ s n f w, (n ≤ s → motive (s - n) f) → motive s (.next n f w))
    (until2 : ∀ s l r u, motive s l → motive s r → motive s (.next 1 (.until2 l r u) (!u)) →
      (1 ≤ s → motive (s - 1) (.until2 l r u)) → motive s (.until2 l r u))
    (until1 : ∀ s r u, motive s r → motive s (.next 1 (.until1 r u) (!u)) →
      (1 ≤ s → motive (s - 1) (.until1 r u)) → motive s (.until1 r u))
    (clause2 : ∀ s l r c, motive s l → motive s r → motive s (.clause2 l r c))
    (neg : ∀ s f, motive s (.neg f)) (const : ∀ s b, motive s (.const b))
    (shift : ∀ s n f, motive s (.shift n f)) : ∀ s f, motive s f := by
  intro s f
  induction f generalizing s with
  | atom p n a => exact atom s p n a
  | next n f w ih => exact next s n f w fun _ => ih _
  | until2 l r u ihl ihr =>
    induction s with
    | zero => exact until2 0 l r u (ihl 0) (ihr 0) (next 0 1 _ _ nofun) nofun
    | succ s ihs => exact until2 (s + 1) l r u (ihl _) (ihr _) (next (s + 1) 1 _ _ fun _ => ihs) fun _ => ihs
  | until1 r u ihr =>
    induction s with
    | zero => exact until1 0 r u (ihr 0) (next 0 1 _ _ nofun) nofun
    | succ s ihs => exact until1 (s + 1) r u (ihr _) (next (s + 1) 1 _ _ fun _ => ihs) fun _ => ihs
  | clause2 l r c ihl ihr => exact clause2 s l r c (ihl s) (ihr s)
  | neg f _ => exact neg s f
  | const b => exact const s b
  | shift n f _ => exact shift s n f

theorem unshift_equiv (h : Nat) (W T : Trace) :
    ∀ (d : Nat) (f : HForm) (k : Nat), k + d ≤ h → noShift f = true →
      hsem h W T (shiftF d f) (k + d) = hsem h W T f k := by
  intro d f
  induction d, f using shiftF_induct with
  | atom s p n a =>
    intro k hk _
    rw [shiftF]
    split
    · subst s
      rfl
    · exact hsem_shift_back h W T s _ k hk
  | next s n f w ih =>
    intro k hk hf
    rw [shiftF]
    split
    · next hn =>
      have e : k + n + (s - n) = k + s := by rw [Nat.add_assoc, Nat.add_sub_of_le hn]
      have hkn : k + n ≤ h := Nat.le_trans (Nat.add_le_add_left hn k) hk
      rw [hsem_next, if_pos hkn, ← ih hn (k + n) (Nat.le_trans (Nat.le_of_eq e) hk) hf, e]
    · next hn =>
      have e : k + s + (n - s) = k + n := by rw [Nat.add_assoc, Nat.add_sub_of_le (Nat.le_of_not_le hn)]
      rw [hsem_shift_zero h W T _ _ hk, hsem_next, hsem_next, e]
  | until2 s l r u ihl ihr ihn _ =>
    intro k hk hf
    obtain ⟨hl, hr⟩ := Bool.and_eq_true_iff.mp hf
    rw [shiftF_until2, hsem_until2_step h W T l r u k (Nat.le_trans (Nat.le_add_right k s) hk)]
    simp only [hsem_clause, ihl k hk hl, ihr k hk hr, ihn k hk hf]
  | until1 s r u ihr ihn _ =>
    intro k hk hf
    rw [shiftF_until1, hsem_until1_step h W T r u k (Nat.le_trans (Nat.le_add_right k s) hk)]
    simp only [hsem_clause, ihr k hk hf, ihn k hk hf]
  | clause2 s l r c ihl ihr =>
    intro k hk hf
    obtain ⟨hl, hr⟩ := Bool.and_eq_true_iff.mp hf
    rw [shiftF]
    simp only [hsem_clause, ihl k hk hl, ihr k hk hr]
  | neg s _ | const s _ =>
    intro k hk _
    rw [shiftF]
    exact hsem_shift_back h W T s _ k hk
  | shift s n f => exact fun k _ hf => nomatch hf

theorem unfold_cnf (h : Nat) (W T : Trace) (k : Nat) :
    ∀ f : HForm, (unfoldF f).all (fun c => c.any fun x => hsem h W T x k) = hsem h W T f k := by
  intro f
  induction f with
  | clause2 l r c ihl ihr =>
    cases c
    · rw [unfoldF, all_any_product, ihl, ihr]
      rfl
    · rw [unfoldF, List.all_append, ihl, ihr]
      rfl
  -- any other formula is its own single clause `[[f]]`
  | _ => exact (Bool.and_true _).trans (Bool.or_false _)

theorem mem_unfoldF_clause2 {l r : HForm} {cj : Bool} {c : List HForm} (hc : c ∈ unfoldF (.clause2 l r cj))
    {x : HForm} (hx : x ∈ c) : ∃ c', (c' ∈ unfoldF l ∨ c' ∈ unfoldF r) ∧ x ∈ c' := by
  cases cj with
  | true => exact ⟨c, List.mem_append.mp hc, hx⟩
  | false =>
    simp only [unfoldF, List.mem_flatMap, List.mem_map] at hc
    obtain ⟨c1, h1, c2, h2, rfl⟩ := hc
    rcases List.mem_append.mp hx with hx | hx
    · exact ⟨c1, .inl h1, hx⟩
    · exact ⟨c2, .inr h2, hx⟩

end TelProofs
