/-
C08: the generated loop test as a pure function `cont` of the number of calls made; the loop as `loopList`, characterised by
`loopList_eq` (the horizons from `step` to the first failure of `cont`); its refinement of `TelSpec.specCalls`; the three
option parsers (`parse*_spec`, `applyOption_cases`).
-/
import TelModel.Imain
import TelProofs.PyLemmas

namespace TelProofs
open TelModel TelModel.Generated TelSpec

/-- the loop continues because the stop criterion is not met by the last result -/
def contMatch (istop : String) (r : SolveResult) : Bool :=
  (istop == "SAT" && !(r == .sat)) || (istop == "UNSAT" && !(r == .unsat)) || (istop == "UNKNOWN" && !(r == .unknown))

/-- `step < imax` with `None` meaning no bound -/
def belowMax (imax : Option Int) (step : Int) : Bool :=
  match imax with
  | none => true
  | some m => decide (step < m)

/-- the test on `imax`, which compares with `None` only behind the test for `None` -/
theorem pyOr_isNone_lt (imax : Option Int) (step : Int) :
    pyOr (.ok imax.isNone) (pyLtOpt step imax) = .ok (belowMax imax step) := by
  cases imax <;> rfl

/-- At the very first test (`step = 0`, `ret = None`) the generated condition never touches `ret`. -/
theorem loopCond_zero (imin : Int) (imax : Option Int) (istop : String) :
    loopCond imin imax istop 0 none = .ok (belowMax imax 0) := by
  simp only [loopCond, py_pure, pyOr_isNone_lt, BEq.rfl, pyOr_ok true, if_true, pyAnd_ok_ok, Bool.and_true]

theorem loopCond_succ (imin : Int) (imax : Option Int) (istop : String) {step : Nat} {r : SolveResult}
    (hs : 0 < step) :
    loopCond imin imax istop (step : Int) (some r)
      = .ok (belowMax imax step && (decide ((step : Int) < imin) || contMatch istop r)) := by
  have h0 : ((step : Int) == 0) = false := beq_eq_false_iff_ne.2 (by omega)
  simp only [loopCond, py_pure, pyOr_isNone_lt, retAttr_sat, retAttr_unsat, retAttr_unknown, pyNot_ok, pyAnd_ok_ok,
    pyOr_ok_ok, h0, contMatch, Except.ok.injEq]
  -- a Boolean identity in the single tests, however the source groups and orders them
  generalize belowMax imax step = b0
  generalize decide ((step : Int) < imin) = b1
  generalize (istop == "SAT") = b2
  generalize (istop == "UNSAT") = b3
  generalize (istop == "UNKNOWN") = b4
  revert b0 b1 b2 b3 b4
  cases r <;> decide

def cont (o : Opts) (res : Nat → SolveResult) (s : Nat) : Bool :=
  if s = 0 then belowMax o.imax 0
  else belowMax o.imax s && (decide ((s : Int) < o.imin) || contMatch o.istop (res (s - 1)))

def loopList (o : Opts) (res : Nat → SolveResult) : Nat → Nat → List Nat
  | 0, _ => []
  | fuel+1, step => if cont o res step then step :: loopList o res fuel (step+1) else []

/-- the value of `ret` when `step` calls have been made -/
def lastRes (res : Nat → SolveResult) (step : Nat) : Option SolveResult :=
  if step = 0 then none else some (res (step - 1))

theorem lastRes_succ (res : Nat → SolveResult) (step : Nat) : lastRes res (step + 1) = some (res step) := rfl

theorem loopCond_cont (o : Opts) (res : Nat → SolveResult) (step : Nat) :
    loopCond o.imin o.imax o.istop (step : Int) (lastRes res step) = .ok (cont o res step) := by
  unfold lastRes cont
  split
  · subst step
    exact loopCond_zero ..
  · exact loopCond_succ _ _ _ (by omega)

theorem runLoop_eq (o : Opts) (res : Nat → SolveResult) (fuel step : Nat) :
    runLoop o res fuel step (lastRes res step) = .ok (loopList o res fuel step) := by
  induction fuel generalizing step with
  | zero => rfl
  | succ n ih =>
    have ih := lastRes_succ res step ▸ ih (step + 1)
    simp only [runLoop, loopList, loopCond_cont, ih, ok_bind]
    split <;> rfl

theorem run_eq (o : Opts) (res : Nat → SolveResult) (fuel : Nat) :
    run o res fuel = .ok (loopList o res fuel 0) :=
  runLoop_eq o res fuel 0

/-! ### What the loop does, in terms of `cont` -/

theorem belowMax_iff (imax : Option Int) (s : Int) : belowMax imax s = true ↔ ∀ m, imax = some m → s < m := by
  cases imax <;> simp [belowMax]

theorem cont_iff (o : Opts) (res : Nat → SolveResult) (s : Nat) : cont o res s = true ↔
    (∀ m, o.imax = some m → (s : Int) < m) ∧ (s = 0 ∨ (s : Int) < o.imin ∨ contMatch o.istop (res (s - 1)) = true) := by
  unfold cont
  split
  next h => simp only [belowMax_iff, h, true_or, and_true, Int.natCast_zero]
  next h => simp only [Bool.and_eq_true, belowMax_iff, Bool.or_eq_true, decide_eq_true_eq, h, false_or]

theorem cont_eq_false_iff (o : Opts) (res : Nat → SolveResult) (s : Nat) : cont o res s = false ↔
    (∃ m, o.imax = some m ∧ m ≤ (s : Int)) ∨ (s ≠ 0 ∧ o.imin ≤ (s : Int) ∧ contMatch o.istop (res (s - 1)) = false) := by
  rw [← Bool.not_eq_true, cont_iff, Decidable.not_and_iff_not_or_not]
  simp only [Classical.not_forall, Int.not_lt, not_or, Bool.not_eq_true, exists_prop, ne_eq]

/-- The horizons solved are those from `step` up to the first at which `cont` fails, unless the fuel ends before. -/
theorem loopList_eq (o : Opts) (res : Nat → SolveResult) (fuel step : Nat) :
    ∃ n ≤ fuel, loopList o res fuel step = List.range' step n ∧
      (∀ s, step ≤ s → s < step + n → cont o res s = true) ∧ (n < fuel → cont o res (step + n) = false) := by
  induction fuel generalizing step with
  | zero => exact ⟨0, Nat.le_refl _, rfl, fun s h1 h2 => absurd h2 (Nat.not_lt.2 h1), nofun⟩
  | succ f ih =>
    unfold loopList
    split
    next hstep =>
      obtain ⟨n, hn, he, hc, hs⟩ := ih (step + 1)
      refine ⟨n + 1, Nat.succ_le_succ hn, by rw [he, List.range'_succ], fun s h1 h2 => ?_, fun h => ?_⟩
      · rcases Nat.eq_or_lt_of_le h1 with rfl | h1
        · exact hstep
        · exact hc s h1 (by omega)
      · rw [Nat.add_comm n 1, ← Nat.add_assoc]
        exact hs (Nat.lt_of_succ_lt_succ h)
    next hstep =>
      exact ⟨0, Nat.zero_le _, rfl, fun s h1 h2 => absurd h2 (Nat.not_lt.2 h1), fun _ => Bool.eq_false_iff.2 hstep⟩

theorem loopList_length_le (o : Opts) (res : Nat → SolveResult) (fuel : Nat) :
    ∀ step, (loopList o res fuel step).length ≤ fuel := by
  intro step
  obtain ⟨n, hn, he, _⟩ := loopList_eq o res fuel step
  rw [he, List.length_range']
  exact hn

/-- a run in terms of `cont`: what every statement about the horizons of a run comes from -/
theorem run_horizons (o : Opts) (res : Nat → SolveResult) (fuel : Nat) (l : List Nat) (h : run o res fuel = .ok l) :
    l = List.range l.length ∧ (∀ s < l.length, cont o res s = true) ∧
      (l.length < fuel → cont o res l.length = false) := by
  obtain ⟨n, _, he, hc, hs⟩ := loopList_eq o res fuel 0
  rw [Nat.zero_add] at hc hs
  obtain rfl : List.range n = l := by
    rw [List.range_eq_range', ← he]
    exact Except.ok.inj (run_eq o res fuel ▸ h)
  rw [List.length_range]
  exact ⟨rfl, fun s => hc s (Nat.zero_le s), hs⟩

theorem run_length_ge (o : Opts) (res : Nat → SolveResult) (fuel : Nat) (l : List Nat) (h : run o res fuel = .ok l)
    (n : Nat) (hn : n ≤ fuel) (hc : ∀ s < n, cont o res s = true) : n ≤ l.length := by
  obtain ⟨_, _, hs⟩ := run_horizons o res fuel l h
  refine Nat.le_of_not_lt fun hlt => ?_
  have := hc _ hlt
  rw [hs (by omega)] at this
  cases this

/-! ### Refinement of `TelSpec.specCalls` -/

/-- `Stop.matches` on the option string itself; on the three admissible strings `contMatch` is its negation (`contMatch_valid`) -/
def stopMatch (istop : String) (r : SolveResult) : Bool :=
  (istop == "SAT" && r == .sat) || (istop == "UNSAT" && r == .unsat) || (istop == "UNKNOWN" && r == .unknown)

theorem contMatch_valid (istop : String) (r : SolveResult)
    (h : istop = "SAT" ∨ istop = "UNSAT" ∨ istop = "UNKNOWN") : contMatch istop r = !(stopMatch istop r) := by
  rcases h with rfl | rfl | rfl
  all_goals cases r <;> decide

theorem contMatch_stop (istop : String) (st : Stop) (h : Stop.ofString? istop = some st) (r : SolveResult) :
    contMatch istop r = !(st.matches r) := by
  unfold Stop.ofString? at h
  split at h
  all_goals cases h
  all_goals cases r <;> decide

/- `mayStop` says "`imax` is reached, or `imin` calls are made and the last result meets the criterion"; `cont` is its negation,
the second disjunct being false while there is no result yet (`s = 0`). -/
theorem cont_eq_not_mayStop (o : Opts) (st : Stop) (h : Stop.ofString? o.istop = some st)
    (res : Nat → SolveResult) (s : Nat) :
    cont o res s = !(mayStop o.imin o.imax st s (lastRes res s)) := by
  have hlt (a b : Int) : decide (a < b) = !decide (b ≤ a) := by simp only [← Int.not_le, decide_not]
  -- without a last result `mayStop` is its first disjunct
  have hmax : belowMax o.imax s = !(mayStop o.imin o.imax st s none) := by
    unfold belowMax mayStop
    cases o.imax
    · rfl
    · show decide (_ < _) = !(decide (_ ≤ _) || false)
      rw [hlt, Bool.or_false]
  unfold cont lastRes
  by_cases hs : s = 0
  · rw [if_pos hs, if_pos hs, ← hmax, hs]
    rfl
  · rw [if_neg hs, if_neg hs, hmax, hlt, contMatch_stop o.istop st h, ← Bool.not_and, ← Bool.not_or]
    unfold mayStop
    rw [Bool.or_false]

theorem loopList_spec (o : Opts) (st : Stop) (h : Stop.ofString? o.istop = some st)
    (res : Nat → SolveResult) (fuel step : Nat) :
    specCallsFrom o.imin o.imax st ((List.range' step fuel).map res) step (lastRes res step)
      = step + (loopList o res fuel step).length := by
  induction fuel generalizing step with
  | zero => rfl
  | succ n ih =>
    simp only [loopList, List.range'_succ, List.map_cons, specCallsFrom, cont_eq_not_mayStop o st h]
    cases mayStop o.imin o.imax st step (lastRes res step)
    · have ih := lastRes_succ res step ▸ ih (step + 1)
      simp only [Bool.false_eq_true, if_false, Bool.not_false, if_true, ih, List.length_cons]
      omega
    · rfl

theorem run_refines_spec (o : Opts) (st : Stop) (h : Stop.ofString? o.istop = some st)
    (res : Nat → SolveResult) (fuel : Nat) :
    run o res fuel = .ok (List.range (specCalls o.imin o.imax st ((List.range fuel).map res))) := by
  have hl := loopList_spec o st h res fuel 0
  rw [Nat.zero_add, ← List.range_eq_range'] at hl
  rw [specCalls, show (none : Option SolveResult) = lastRes res 0 from rfl, hl, ← (run_horizons o res fuel _ (run_eq o res fuel)).1]
  exact run_eq o res fuel

/-! ### Option values -/

theorem pyInt_eq_error {v : String} {e : PyErr} (h : pyInt v = .error e) : e = .valueError := by
  unfold pyInt at h
  split at h <;> cases h
  rfl

section
/- The three parsers are regenerated from the source, which may spell their tests differently (`not x < 0`, `0 <= x`, an
early `return False`): the proofs decide the test on either side of its condition rather than end in `rfl`, and a simp
argument that serves one spelling is unused under another. -/
set_option linter.unusedSimpArgs false

theorem parseImin_spec (v : String) :
    (∀ x, pyInt v = .ok x → parseImin v = .ok (x, decide (x ≥ 0))) ∧
    (pyInt v = .error .valueError → ∃ d, parseImin v = .ok (d, false)) := by
  constructor
  · intro x hx
    simp only [parseImin, hx]
    refine congrArg (fun b => Except.ok (x, b)) ?_
    by_cases h0 : x < 0 <;> simp [h0] <;> omega
  · intro he
    refine ⟨0, ?_⟩
    simp only [parseImin, he]
    rfl

theorem parseImax_spec (v : String) :
    (v.length = 0 → parseImax v = .ok (none, true)) ∧
    (0 < v.length → ∀ x, pyInt v = .ok x → parseImax v = .ok (some x, decide (x ≥ 0))) ∧
    (0 < v.length → pyInt v = .error .valueError → ∃ d, parseImax v = .ok (d, false)) := by
  refine ⟨fun h => ?_, fun h x hx => ?_, fun h he => ⟨none, ?_⟩⟩
  · simp [parseImax, h]
  · have hne : v.length ≠ 0 := by omega
    simp only [parseImax, hx]
    simp only [hne, Int.natCast_pos, h, decide_true, if_true, Int.natCast_eq_zero, beq_iff_eq, if_false]
    refine congrArg (fun b => Except.ok (some x, b)) ?_
    by_cases h0 : x < 0 <;> simp [h0] <;> omega
  · have hne : v.length ≠ 0 := by omega
    simp [parseImax, he, hne]

theorem parseIstop_spec (v : String) :
    parseIstop v = .ok (pyUpper v, decide (pyUpper v = "SAT" ∨ pyUpper v = "UNSAT" ∨ pyUpper v = "UNKNOWN")) := by
  by_cases h : pyUpper v = "SAT" ∨ pyUpper v = "UNSAT" ∨ pyUpper v = "UNKNOWN"
  · rcases h with h | h | h <;> simp [parseIstop, h]
  · simp only [not_or] at h
    simp [parseIstop, h]

end

def _root_.TelModel.Opts.Valid (o : Opts) : Prop :=
  0 ≤ o.imin ∧ (∀ m, o.imax = some m → 0 ≤ m) ∧ (o.istop = "SAT" ∨ o.istop = "UNSAT" ∨ o.istop = "UNKNOWN")

theorem parseImin_ok (v : String) : ∃ x b, parseImin v = .ok (x, b) ∧ (b = true → 0 ≤ x) := by
  rcases hv : pyInt v with e | x
  · obtain rfl := pyInt_eq_error hv
    obtain ⟨d, hd⟩ := (parseImin_spec v).2 hv
    exact ⟨d, false, hd, nofun⟩
  · exact ⟨x, _, (parseImin_spec v).1 x hv, of_decide_eq_true⟩

theorem parseImax_ok (v : String) : ∃ x b, parseImax v = .ok (x, b) ∧ (b = true → ∀ m, x = some m → 0 ≤ m) := by
  rcases Nat.eq_zero_or_pos v.length with h0 | h0
  · exact ⟨none, true, (parseImax_spec v).1 h0, fun _ _ => nofun⟩
  · rcases hv : pyInt v with e | x
    · obtain rfl := pyInt_eq_error hv
      obtain ⟨d, hd⟩ := (parseImax_spec v).2.2 h0 hv
      exact ⟨d, false, hd, nofun⟩
    · exact ⟨some x, _, (parseImax_spec v).2.1 h0 x hv, fun h m hm => Option.some.inj hm ▸ of_decide_eq_true h⟩

theorem parseIstop_ok (v : String) :
    ∃ x b, parseIstop v = .ok (x, b) ∧ (b = true → x = "SAT" ∨ x = "UNSAT" ∨ x = "UNKNOWN") :=
  ⟨_, _, parseIstop_spec v, of_decide_eq_true⟩

theorem applyOption_cases (o : Opts) (name value : String) :
    applyOption o name value = .rejected ∨ ∃ o', applyOption o name value = .accepted o' ∧ (o.Valid → o'.Valid) := by
  unfold applyOption
  split
  · obtain ⟨x, b, hp, hv⟩ := parseImin_ok value
    rw [hp]
    cases b
    · exact .inl rfl
    · exact .inr ⟨_, rfl, fun ho => ⟨hv rfl, ho.2⟩⟩
  · obtain ⟨x, b, hp, hv⟩ := parseImax_ok value
    rw [hp]
    cases b
    · exact .inl rfl
    · exact .inr ⟨_, rfl, fun ho => ⟨ho.1, hv rfl, ho.2.2⟩⟩
  · obtain ⟨x, b, hp, hv⟩ := parseIstop_ok value
    rw [hp]
    cases b
    · exact .inl rfl
    · exact .inr ⟨_, rfl, fun ho => ⟨ho.1, ho.2.1, hv rfl⟩⟩
  · exact .inl rfl

theorem applyOption_ne_crashed (o : Opts) (name value : String) (e : PyErr) : applyOption o name value ≠ .crashed e := by
  intro h
  rcases applyOption_cases o name value with h' | ⟨o', h', _⟩
  all_goals
    rw [h'] at h
    cases h

end TelProofs
