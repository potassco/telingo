/-
The life of a next formula's placeholder across the horizons of a run, in closed form (`life_eq`; `placeholder_life` reads it
off): if the target state exists when the pair is first translated, one direct translation; otherwise pending — with the
end-of-trace value of the operator, queued under its own step — exactly while the target state does not exist, resolved in the
call in which the horizon reaches the target, untouched afterwards.
-/
import TelModel.NextLife

namespace TelProofs
open TelModel

theorem life_eq (n : Nat) (weak : Bool) (step h0 : Nat) : ∀ k, life n weak step h0 k =
    if step + n ≤ h0 + k then
      (.done, none, if k = 0 then .direct (step + n) else if h0 + k = step + n then .resolve (step + n) else .nothing)
    else (.pending, some step, if k = 0 then .placeholder weak step else .requeue step)
  | 0 => by
    rw [life, nextTranslate, Nat.add_zero]
    by_cases h : step + n ≤ h0
    · rw [if_pos h, if_pos h]
      rfl
    · rw [if_neg h, if_neg h]
      rfl
  | k + 1 => by
    rw [life, life_eq n weak step h0 k]
    by_cases h : step + n ≤ h0 + k
    · -- finished and not queued: nothing happens any more
      have h1 : step + n ≤ h0 + (k + 1) := Nat.le_succ_of_le h
      have h2 : h0 + (k + 1) ≠ step + n := Nat.ne_of_gt (Nat.lt_succ_of_le h)
      simp only [if_pos h, if_pos h1, if_neg h2, if_neg (Nat.succ_ne_zero k)]
    · -- pending and queued under `step`: this call resolves the placeholder iff its horizon is the target
      simp only [if_neg h, nextTranslate, if_neg (Nat.succ_ne_zero k)]
      by_cases h1 : step + n ≤ h0 + k + 1
      · have h2 : h0 + k + 1 = step + n := Nat.le_antisymm (Nat.succ_le_of_lt (Nat.lt_of_not_le h)) h1
        simp only [if_pos h1, ← Nat.add_assoc, if_pos h2]
        rfl
      · simp only [if_neg h1, ← Nat.add_assoc]
        rfl

theorem placeholder_life (n : Nat) (weak : Bool) (step h0 : Nat) (k : Nat) :
    let (st, todo, act) := life n weak step h0 k
    (st = .done ↔ step + n ≤ h0 + k) ∧ (todo = if step + n ≤ h0 + k then none else some step) ∧
    (act = .resolve (step + n) ↔ (h0 < step + n ∧ h0 + k = step + n)) := by
  rw [life_eq]
  by_cases h : step + n ≤ h0 + k
  · simp only [if_pos h]
    refine ⟨iff_of_true trivial h, trivial, ?_⟩
    cases k with
    | zero => exact iff_of_false nofun fun h' => Nat.not_le_of_gt h'.1 h
    | succ k =>
      rw [if_neg (Nat.succ_ne_zero k)]
      split
      next h2 => exact iff_of_true rfl ⟨Nat.lt_of_lt_of_eq (Nat.lt_add_of_pos_right k.succ_pos) h2, h2⟩
      next h2 => exact iff_of_false nofun fun h' => h2 h'.2
  · simp only [if_neg h]
    refine ⟨iff_of_false nofun h, trivial, ?_⟩
    -- pending: the last action is no `resolve`, and the target is not reached
    have h3 : ¬(h0 < step + n ∧ h0 + k = step + n) := fun h' => h (Nat.le_of_eq h'.2.symm)
    split
    · exact iff_of_false nofun h3
    · exact iff_of_false nofun h3

end TelProofs
