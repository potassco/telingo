/-
`doc_eq_sem` (C03): for every surface formula of the README table, `createFormula` applied to its fully
parenthesised theory term (`toTerm`) succeeds, and the formula it builds has the documented LTL_f semantics.
That formula is a function of the surface formula, `mform`; proofs use it through `createFormula_toTerm`, `isTel_mform`,
`sem_mform` and `mform_value`.
-/
import TelProofs.DocTerm
import TelProofs.ThtCongr
import TelProofs.Tseitin

namespace TelProofs
open TelSpec TelModel TelModel.Generated

def DocEq (s : SForm) (f : BForm) : Prop :=
  isTel f = true ∧ ∀ (h : Nat) (tr : Trace) (lv : Int → Bool) (k : Nat), k ≤ h →
    f.sem h (withAdmin h tr) lv k = docSem h tr s k

theorem tht_bin_total (h : Nat) (tr : Trace) (op : BinOp) (l r : SForm) (k : Nat) :
    tht h tr tr (.bin op l r) k = binSem (binStr op) (tht h tr tr l k) (tht h tr tr r k) := by
  -- the "here" and the "there" conjunct of an implication of `tht` are the same conjunct
  rw [tht_bin]
  generalize tht h tr tr l k = a, tht h tr tr r k = b
  cases op
  · exact (binSem_and a b).symm
  · exact (binSem_or a b).symm
  · exact (Bool.and_self _).trans ((Bool.or_comm _ _).trans (binSem_limp a b).symm)
  · exact (Bool.and_self _).trans (binSem_rimp a b).symm
  · show ((!a || b) && (!a || b) && ((!b || a) && (!b || a))) = binSem "<>" a b
    rw [Bool.and_self, Bool.and_self, binSem_equiv]
    revert a b
    decide

def mform : SForm → BForm
  | .atom a => .atom a [] true
  | .kw .ktrue => .const true
  | .kw .kfalse => .const false
  | .kw .kinitial => .atom "__initial" [] true
  | .kw .kfinal => .atom "__final" [] true
  | .neg f => .neg (mform f)
  | .bin op l r => .bin (binStr op) (mform l) (mform r)
  | .prev n w f => if n = 0 then mform f else .prev (mform f) n w
  | .next n w f => if n = 0 then mform f else .next (mform f) n w
  | .since l r => .telP2 false (mform l) (mform r)
  | .trigger l r => .telP2 true (mform l) (mform r)
  | .evP r => .telP1 false (mform r)
  | .alP r => .telP1 true (mform r)
  | .unt l r => .telN2 false (mform l) (mform r)
  | .rel l r => .telN2 true (mform l) (mform r)
  | .evF r => .telN1 false (mform r)
  | .alF r => .telN1 true (mform r)
  | .initially f => .initially (mform f)
  | .finally_ f => .telN1 true (.bin "|" (.neg (.atom "__final" [] true)) (mform f))
  | .seqPrev w l r => .bin "&" (.prev (mform l) 1 w) (mform r)
  | .seqNext w l r => .bin "&" (mform l) (.next (mform r) 1 w)

attribute [-simp] BEq.rfl in  -- slow on comparisons of string literals: see `SemEqn`
theorem createFormula_toTerm (s : SForm) (hg : GoodAtoms s) : createFormula (toTerm s) = .ok (mform s) := by
  induction s with
  | atom a => exact createAtom_good a hg
  | kw k => cases k <;> simp [toTerm, kwStr, mform, createFormula, unaryOperators, telOperators, kwName]
  | neg f ih | evP f ih | alP f ih | evF f ih | alF f ih | initially f ih | finally_ f ih =>
    simp [toTerm, mform, createFormula, unaryOperators, telOperators, ih hg]
  | bin op l r ihl ihr =>
    cases op <;> simp [toTerm, binStr, mform, createFormula, binaryOperators, ihl hg.1, ihr hg.2]
  | prev n w f ih | next n w f ih =>
    by_cases hn : n = 1
    · cases w <;> simp [toTerm, mform, hn, createFormula, unaryOperators, telOperators, ih hg]
    · cases w <;> simp [toTerm, mform, hn, createFormula, binaryOperators, telOperators, ih hg, createOffset_num]
  | since l r ihl ihr | trigger l r ihl ihr | unt l r ihl ihr | rel l r ihl ihr =>
    simp [toTerm, mform, createFormula, binaryOperators, telOperators, ihl hg.1, ihr hg.2]
  | seqPrev w l r ihl ihr | seqNext w l r ihl ihr =>
    cases w <;> simp [toTerm, mform, createFormula, binaryOperators, telOperators, ihl hg.1, ihr hg.2]

theorem isTel_mform (s : SForm) : isTel (mform s) = true := by
  induction s with
  | kw k => cases k <;> rfl
  | prev n w f ih | next n w f ih =>
    simp only [mform]
    split <;> exact ih
  | _ => simp only [mform, isTel, *, Bool.and_self]

theorem sem_mform (h : Nat) (tr : Trace) (lv : Int → Bool) (s : SForm) (hg : GoodAtoms s) :
    ∀ k, k ≤ h → (mform s).sem h (withAdmin h tr) lv k = tht h tr tr s k := by
  -- at a temporal operator both sides unfold to the same operator of `Quant`, applied to the value sequences of
  -- the subformulas; its congruence lemma takes the induction hypotheses
  induction s with
  | atom a => exact fun k _ => withAdmin_good h tr k hg
  | kw w =>
    intro k _
    cases w
    · rfl
    · rfl
    · exact withAdmin_initial h tr k
    · exact withAdmin_final h tr k
  | neg f ih => exact fun k hk => congrArg not (ih hg k hk)
  | bin op l r ihl ihr =>
    intro k hk
    rw [tht_bin_total, ← ihl hg.1 k hk, ← ihr hg.2 k hk]
    rfl
  | prev n w f ih =>
    intro k hk
    simp only [mform]
    split
    · subst n
      exact (ih hg k hk).trans (if_pos (Nat.zero_le k)).symm
    · exact ite_congr rfl (fun _ => ih hg (k - n) (Nat.le_trans (Nat.sub_le k n) hk)) fun _ => rfl
  | next n w f ih =>
    intro k hk
    simp only [mform]
    split
    · subst n
      exact (ih hg k hk).trans (if_pos hk).symm
    · exact ite_congr rfl (ih hg (k + n)) fun _ => rfl
  | since l r ihl ihr => exact fun k => sinceB_congr (ihl hg.1) (ihr hg.2)
  | trigger l r ihl ihr => exact fun k => triggerB_congr (ihl hg.1) (ihr hg.2)
  | evP r ih => exact fun k => evPB_congr (ih hg)
  | alP r ih => exact fun k => alPB_congr (ih hg)
  | unt l r ihl ihr => exact fun k _ => untilB_congr (ihl hg.1) (ihr hg.2)
  | rel l r ihl ihr => exact fun k _ => releaseB_congr (ihl hg.1) (ihr hg.2)
  | evF r ih => exact fun k _ => evFB_congr (ih hg)
  | alF r ih => exact fun k _ => alFB_congr (ih hg)
  | initially f ih => exact fun k _ => ih hg 0 (Nat.zero_le _)
  | finally_ f ih =>
    intro k hk
    have e : ∀ j, j ≤ h → (BForm.bin "|" (.neg (.atom "__final" [] true)) (mform f)).sem h (withAdmin h tr) lv j
        = (!(j == h) || tht h tr tr f j) := fun j hj => by
      rw [sem_bin, binSem_or, ih hg j hj]
      exact congrArg (fun b => !b || tht h tr tr f j) (withAdmin_final h tr j)
    exact (alFB_congr e).trans (alFB_final h _ k hk)
  | seqPrev w l r ihl ihr =>
    intro k hk
    show binSem "&" (if 1 ≤ k then (mform l).sem h (withAdmin h tr) lv (k - 1) else w)
        ((mform r).sem h (withAdmin h tr) lv k)
      = ((if 1 ≤ k then tht h tr tr l (k - 1) else w) && tht h tr tr r k)
    rw [binSem_and, ihr hg.2 k hk]
    split
    · rw [ihl hg.1 (k - 1) (Nat.le_trans (Nat.sub_le k 1) hk)]
    · rfl
  | seqNext w l r ihl ihr =>
    intro k hk
    show binSem "&" ((mform l).sem h (withAdmin h tr) lv k)
        (if k + 1 ≤ h then (mform r).sem h (withAdmin h tr) lv (k + 1) else w)
      = (tht h tr tr l k && if k + 1 ≤ h then tht h tr tr r (k + 1) else w)
    rw [binSem_and, ihl hg.1 k hk]
    split
    · next hle => rw [ihr hg.2 (k + 1) hle]
    · rfl

theorem mform_value (s : SForm) (hg : GoodAtoms s) {h : Nat} {tr : Trace} {lv : Int → Bool} {v : BForm → Nat → Bool}
    {S : BForm → Nat → Prop} (sys : Sys h (withAdmin h tr) lv v S) {k : Nat} (hS : S (mform s) k) :
    v (mform s) k = docSem h tr s k :=
  (tel_unique sys _ (isTel_mform s) k hS).trans (sem_mform h tr lv s hg k (sys.bound _ _ hS))

theorem doc_eq_sem (s : SForm) (hg : GoodAtoms s) : ∃ f, createFormula (toTerm s) = .ok f ∧ DocEq s f :=
  ⟨mform s, createFormula_toTerm s hg, isTel_mform s, fun h tr lv => sem_mform h tr lv s hg⟩

end TelProofs
