/-
Algebra of the LDL_f run relation: diamond/box over a step relation `R : Nat → Nat → Bool` on positions `0..h`, the
unfolding laws used by the translation, and the sufficiency of the fuel `h+1` for iteration (`starRuns_fuel`) over a
relation that never goes backwards and never leaves `0..h` (`Bounded`, closed under the path constructors).  The run
relation `Path.runs` of every model path is one (`runs_bounded`).
-/
import TelModel.BodySem
import TelProofs.Quant

namespace TelProofs
open TelSpec TelModel

/-- `⟨R⟩X` at `k` -/
def diaR (h : Nat) (R : Nat → Nat → Bool) (X : Nat → Bool) (k : Nat) : Bool :=
  anyUpTo h fun j => R k j && X j
/-- `[R]X` at `k` -/
def boxR (h : Nat) (R : Nat → Nat → Bool) (X : Nat → Bool) (k : Nat) : Bool :=
  allUpTo h fun j => !(R k j) || X j

theorem diaR_iff {h R X k} : diaR h R X k = true ↔ ∃ j, j ≤ h ∧ R k j = true ∧ X j = true := by
  simp only [diaR, anyUpTo_iff, Bool.and_eq_true]

theorem boxR_eq_not_diaR (h R X k) : boxR h R X k = !(diaR h R (fun j => !(X j)) k) := by
  simp only [boxR, diaR, allUpTo_eq_not_any, Bool.not_or, Bool.not_not]

def skipR (h : Nat) : Nat → Nat → Bool := fun k j => j == k + 1 && decide (j ≤ h)
def checkR (t : Nat → Bool) : Nat → Nat → Bool := fun k j => j == k && t k
def choiceR (A B : Nat → Nat → Bool) : Nat → Nat → Bool := fun k j => A k j || B k j
def seqR (h : Nat) (A B : Nat → Nat → Bool) : Nat → Nat → Bool := fun k j => anyUpTo h fun m => A k m && B m j
def starR (h : Nat) (A : Nat → Nat → Bool) : Nat → Nat → Bool := fun k j => starRuns h A (h + 1) k j

/-- a step relation on the positions of a trace: it never goes backwards and never leaves `0..h` -/
structure Bounded (h : Nat) (R : Nat → Nat → Bool) : Prop where
  fwd : ∀ k j, R k j = true → k ≤ j
  inside : ∀ k j, R k j = true → k ≤ h → j ≤ h

theorem bounded_iff {h : Nat} {R : Nat → Nat → Bool} : Bounded h R ↔ ∀ k j, R k j = true → k ≤ j ∧ (k ≤ h → j ≤ h) :=
  ⟨fun hb k j hr => ⟨hb.fwd k j hr, hb.inside k j hr⟩, fun H => ⟨fun k j hr => (H k j hr).1, fun k j hr => (H k j hr).2⟩⟩

theorem bounded_skipR {h : Nat} : Bounded h (skipR h) := by
  refine bounded_iff.2 fun k j hr => ?_
  simp only [skipR, Bool.and_eq_true, beq_iff_eq, decide_eq_true_eq] at hr
  exact ⟨hr.1 ▸ Nat.le_succ k, fun _ => hr.2⟩

theorem bounded_checkR {h : Nat} {t : Nat → Bool} : Bounded h (checkR t) := by
  refine bounded_iff.2 fun k j hr => ?_
  simp only [checkR, Bool.and_eq_true, beq_iff_eq] at hr
  exact ⟨Nat.le_of_eq hr.1.symm, fun hk => hr.1 ▸ hk⟩

theorem Bounded.choice {h : Nat} {A B : Nat → Nat → Bool} (ha : Bounded h A) (hb : Bounded h B) : Bounded h (choiceR A B) :=
  bounded_iff.2 fun k j hr => (Bool.or_eq_true_iff.mp hr).elim (bounded_iff.1 ha k j) (bounded_iff.1 hb k j)

theorem Bounded.seq {h : Nat} {A B : Nat → Nat → Bool} (ha : Bounded h A) (hb : Bounded h B) : Bounded h (seqR h A B) := by
  refine bounded_iff.2 fun k j hr => ?_
  simp only [seqR, anyUpTo_iff, Bool.and_eq_true] at hr
  obtain ⟨m, _, h2, h3⟩ := hr
  have hkm := bounded_iff.1 ha k m h2
  have hmj := bounded_iff.1 hb m j h3
  exact ⟨Nat.le_trans hkm.1 hmj.1, fun hk => hmj.2 (hkm.2 hk)⟩

theorem diaR_skip {h X k} : diaR h (skipR h) X k = if k + 1 ≤ h then X (k+1) else false := by
  apply Bool.eq_iff_iff.mpr
  simp only [diaR_iff, skipR, Bool.and_eq_true, beq_iff_eq, decide_eq_true_eq]
  constructor
  · rintro ⟨_, _, ⟨rfl, hk⟩, hx⟩
    rwa [if_pos hk]
  · intro hx
    split at hx
    · next hk => exact ⟨k + 1, hk, ⟨rfl, hk⟩, hx⟩
    · cases hx

theorem diaR_check {h t X k} (hk : k ≤ h) : diaR h (checkR t) X k = (t k && X k) := by
  apply Bool.eq_iff_iff.mpr
  rw [diaR_iff]
  simp only [checkR, Bool.and_eq_true, beq_iff_eq]
  constructor
  · rintro ⟨j, _, ⟨h2, h3⟩, h4⟩
    subst h2
    exact ⟨h3, h4⟩
  · rintro ⟨h1, h2⟩
    exact ⟨k, hk, ⟨rfl, h1⟩, h2⟩

theorem diaR_choice {h A B X k} : diaR h (choiceR A B) X k = (diaR h A X k || diaR h B X k) := by
  apply Bool.eq_iff_iff.mpr
  simp only [Bool.or_eq_true, diaR_iff, choiceR]
  constructor
  · rintro ⟨j, h1, h2 | h2, h3⟩
    · exact Or.inl ⟨j, h1, h2, h3⟩
    · exact Or.inr ⟨j, h1, h2, h3⟩
  · rintro (⟨j, h1, h2, h3⟩ | ⟨j, h1, h2, h3⟩)
    · exact ⟨j, h1, Or.inl h2, h3⟩
    · exact ⟨j, h1, Or.inr h2, h3⟩

theorem diaR_seq {h A B X k} : diaR h (seqR h A B) X k = diaR h A (diaR h B X) k := by
  apply Bool.eq_iff_iff.mpr
  simp only [diaR_iff, seqR, anyUpTo_iff, Bool.and_eq_true]
  constructor
  · rintro ⟨j, h1, ⟨m, h2, h3, h4⟩, h5⟩
    exact ⟨m, h2, h3, j, h1, h4, h5⟩
  · rintro ⟨m, h2, h3, j, h1, h4, h5⟩
    exact ⟨j, h1, ⟨m, h2, h3, h4⟩, h5⟩

theorem diaR_congr {h R X Y k} (hxy : ∀ j, j ≤ h → R k j = true → X j = Y j) : diaR h R X k = diaR h R Y k := by
  apply Bool.eq_iff_iff.mpr
  simp only [diaR_iff]
  constructor
  · rintro ⟨j, h1, h2, h3⟩
    exact ⟨j, h1, h2, (hxy j h1 h2).symm.trans h3⟩
  · rintro ⟨j, h1, h2, h3⟩
    exact ⟨j, h1, h2, (hxy j h1 h2).trans h3⟩

theorem diaR_mono {h R X Y k} (hxy : ∀ j, X j = true → Y j = true) (hd : diaR h R X k = true) : diaR h R Y k = true := by
  obtain ⟨j, h1, h2, h3⟩ := diaR_iff.mp hd
  exact diaR_iff.mpr ⟨j, h1, h2, hxy j h3⟩

theorem diaR_last {h R X} (hb : Bounded h R) (hd : diaR h R X h = true) : X h = true := by
  obtain ⟨j, h1, h2, h3⟩ := diaR_iff.mp hd
  obtain rfl : j = h := Nat.le_antisymm h1 (hb.fwd h j h2)
  exact h3

theorem starRuns_succ (h R n k j) :
    starRuns h R (n+1) k j = (j == k || diaR h R (fun m => starRuns h R n m j) k) := rfl

theorem starRuns_mono {h R} : ∀ n k j, starRuns h R n k j = true → starRuns h R (n+1) k j = true := by
  intro n
  induction n with
  | zero =>
    intro k j hs
    rw [starRuns_succ, show (j == k) = true from hs]
    rfl
  | succ n ih =>
    intro k j hs
    rw [starRuns_succ, Bool.or_eq_true] at hs ⊢
    exact hs.imp_right (diaR_mono fun m => ih m j)

theorem starRuns_bounded {h : Nat} {R : Nat → Nat → Bool} (hb : Bounded h R) : ∀ n, Bounded h (starRuns h R n) := by
  intro n
  induction n with
  | zero =>
    refine bounded_iff.2 fun k j hs => ?_
    simp only [starRuns, beq_iff_eq] at hs
    exact ⟨Nat.le_of_eq hs.symm, fun hk => hs ▸ hk⟩
  | succ n ih =>
    refine bounded_iff.2 fun k j hs => ?_
    rw [starRuns_succ, Bool.or_eq_true, beq_iff_eq] at hs
    rcases hs with hs | hs
    · exact ⟨Nat.le_of_eq hs.symm, fun hk => hs ▸ hk⟩
    · exact bounded_iff.1 (hb.seq ih) k j hs

/-- fuel sufficiency: a chain from `k` needs at most `h - k` steps, since a step that does not advance can be left out -/
theorem starRuns_fuel {h R} (hb : Bounded h R) :
    ∀ n k j, h - k ≤ n → k ≤ h → starRuns h R (n+1) k j = starRuns h R n k j := by
  intro n
  induction n with
  | zero =>
    intro k j hk hkh
    obtain rfl : k = h := Nat.le_antisymm hkh (Nat.sub_eq_zero_iff_le.mp (Nat.le_zero.mp hk))
    refine Bool.eq_iff_iff.mpr ⟨fun hs => ?_, starRuns_mono 0 k j⟩
    rw [starRuns_succ, Bool.or_eq_true] at hs
    exact hs.elim id (diaR_last hb)
  | succ n ih =>
    intro k j hk hkh
    refine Bool.eq_iff_iff.mpr ⟨fun hs => ?_, starRuns_mono (n+1) k j⟩
    rw [starRuns_succ, Bool.or_eq_true, diaR_iff] at hs
    rw [starRuns_succ, Bool.or_eq_true, diaR_iff]
    rcases hs with hs | ⟨m, hm, hr, hs⟩
    · exact Or.inl hs
    · by_cases hmk : m = k
      · subst hmk
        rwa [starRuns_succ, Bool.or_eq_true, diaR_iff] at hs
      · -- a step that advances leaves a shorter remainder of the trace
        have hkm : k < m := Nat.lt_of_le_of_ne (hb.fwd k m hr) (Ne.symm hmk)
        have hlt : h - m < h - k := Nat.sub_lt_sub_left (Nat.lt_of_lt_of_le hkm hm) hkm
        exact Or.inr ⟨m, hm, hr, by rwa [ih m j (Nat.le_of_lt_succ (Nat.lt_of_lt_of_le hlt hk)) hm] at hs⟩

/-- with the fuel `h + 1` iteration satisfies `ρ* = id ∪ ρ ; ρ*` -/
theorem starR_unfold {h R} (hb : Bounded h R) :
    starR h R = choiceR (checkR fun _ => true) (seqR h R (starR h R)) := by
  funext k j
  show (j == k || diaR h R (fun m => starRuns h R h m j) k) = (j == k && true || diaR h R (fun m => starRuns h R (h+1) m j) k)
  rw [Bool.and_true, diaR_congr fun m hm _ => (starRuns_fuel hb h m j (Nat.sub_le h m) hm).symm]

theorem diaR_star {h R X k} (hb : Bounded h R) (hk : k ≤ h) :
    diaR h (starR h R) X k = (X k || diaR h R (diaR h (starR h R) X) k) :=
  calc diaR h (starR h R) X k
    _ = diaR h (choiceR (checkR fun _ => true) (seqR h R (starR h R))) X k := by rw [← starR_unfold hb]
    _ = _ := by rw [diaR_choice, diaR_check hk, diaR_seq, Bool.true_and]

/-! ### box versions by duality -/

theorem not_boxR (h R X) : (fun k => !(boxR h R X k)) = diaR h R (fun j => !(X j)) :=
  funext fun k => by rw [boxR_eq_not_diaR, Bool.not_not]

theorem boxR_skip {h X k} : boxR h (skipR h) X k = if k + 1 ≤ h then X (k+1) else true := by
  rw [boxR_eq_not_diaR, diaR_skip]
  split
  · exact Bool.not_not _
  · rfl

theorem boxR_check {h t X k} (hk : k ≤ h) : boxR h (checkR t) X k = (!(t k) || X k) := by
  rw [boxR_eq_not_diaR, diaR_check hk, Bool.not_and, Bool.not_not]

theorem boxR_choice {h A B X k} : boxR h (choiceR A B) X k = (boxR h A X k && boxR h B X k) := by
  rw [boxR_eq_not_diaR, diaR_choice, Bool.not_or, boxR_eq_not_diaR, boxR_eq_not_diaR]

theorem boxR_seq {h A B X k} : boxR h (seqR h A B) X k = boxR h A (boxR h B X) k := by
  rw [boxR_eq_not_diaR, diaR_seq, boxR_eq_not_diaR, not_boxR]

theorem boxR_congr {h R X Y k} (hxy : ∀ j, j ≤ h → R k j = true → X j = Y j) : boxR h R X k = boxR h R Y k := by
  rw [boxR_eq_not_diaR, boxR_eq_not_diaR, diaR_congr fun j h1 h2 => congrArg not (hxy j h1 h2)]

theorem boxR_star {h R X k} (hb : Bounded h R) (hk : k ≤ h) :
    boxR h (starR h R) X k = (X k && boxR h R (boxR h (starR h R) X) k) := by
  rw [boxR_eq_not_diaR, diaR_star hb hk, boxR_eq_not_diaR, not_boxR, Bool.not_or, Bool.not_not]

/-! ### the run relation of model paths -/

section
variable {h : Nat} {tr : Trace}

theorem runs_skip : Path.runs h tr .skip = skipR h := rfl
theorem runs_check (t : PTest) : Path.runs h tr (.check t) = checkR (fun k => t.holds tr k) := rfl
theorem runs_choice (l r : Path) : Path.runs h tr (.choice l r) = choiceR (l.runs h tr) (r.runs h tr) := rfl
theorem runs_seq (l r : Path) : Path.runs h tr (.seq l r) = seqR h (l.runs h tr) (r.runs h tr) := rfl
theorem runs_star (p : Path) : Path.runs h tr (.star p) = starR h (p.runs h tr) := rfl

theorem runs_bounded (p : Path) : Bounded h (p.runs h tr) := by
  induction p with
  | skip => exact bounded_skipR
  | check t => exact bounded_checkR
  | choice l r ihl ihr => exact ihl.choice ihr
  | seq l r ihl ihr => exact ihl.seq ihr
  | star p ih => exact starRuns_bounded ih _

end

end TelProofs
