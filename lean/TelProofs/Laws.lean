/-
C16: the two notions of equivalence in which the documented abbreviations and dualities are stated
(`Eqv`: `tht` in every world, for the head-admissible ones; `EqvT`: `docSem`, for the classical
dualities), the substitution theorem that lifts an equivalence to every sub-formula position of every
context, and the past/future mirror symmetry.  The laws themselves are in `Props/C16.lean`.
-/
import TelProofs.ThtCongr

namespace TelProofs
open TelSpec

def Eqv (h : Nat) (f g : SForm) : Prop := ∀ (W T : Trace) (k : Nat), k ≤ h → tht h W T f k = tht h W T g k
def EqvT (h : Nat) (f g : SForm) : Prop := ∀ (T : Trace) (k : Nat), k ≤ h → docSem h T f k = docSem h T g k

theorem Eqv.toT {h f g} (e : Eqv h f g) : EqvT h f g := fun T k hk => e T T k hk

/-- replace every occurrence of the atom `x` in `C` by `f` -/
def substA (x : String) (f : SForm) : SForm → SForm
  | .atom a => if a = x then f else .atom a
  | .kw k => .kw k
  | .neg g => .neg (substA x f g)
  | .bin op l r => .bin op (substA x f l) (substA x f r)
  | .prev n w g => .prev n w (substA x f g)
  | .next n w g => .next n w (substA x f g)
  | .since l r => .since (substA x f l) (substA x f r)
  | .trigger l r => .trigger (substA x f l) (substA x f r)
  | .evP r => .evP (substA x f r)
  | .alP r => .alP (substA x f r)
  | .unt l r => .unt (substA x f l) (substA x f r)
  | .rel l r => .rel (substA x f l) (substA x f r)
  | .evF r => .evF (substA x f r)
  | .alF r => .alF (substA x f r)
  | .initially g => .initially (substA x f g)
  | .finally_ g => .finally_ (substA x f g)
  | .seqPrev w l r => .seqPrev w (substA x f l) (substA x f r)
  | .seqNext w l r => .seqNext w (substA x f l) (substA x f r)

def setAtom (W : Trace) (x : String) (v : Nat → Bool) : Trace := fun k a => if a = x then v k else W k a

theorem tht_substA (h : Nat) (x : String) (f C : SForm) (W T : Trace) (k : Nat) :
    tht h W T (substA x f C) k = tht h (setAtom W x (tht h W T f)) (setAtom T x (tht h T T f)) C k := by
  induction C generalizing W T k with
  | atom a =>
    simp only [substA, setAtom, tht]
    split <;> rfl
  | kw w => cases w <;> rfl
  | bin op l r ihl ihr =>
    show tht h W T (.bin op (substA x f l) (substA x f r)) k = _
    rw [tht_bin, tht_bin, ihl, ihr, ihl, ihr]
  -- every other connective: one step of `substA` and of `tht`, then the induction hypotheses, which
  -- hold at every position and in every world and so rewrite under the quantifiers of the operator
  | _ =>
    unfold substA tht
    simp only [*]

/-- in one world `(W,T)`; the values in `(T,T)` are needed below a negation or an implication -/
theorem substA_congr (h : Nat) (x : String) (f g : SForm) {W T : Trace}
    (eW : ∀ k, k ≤ h → tht h W T f k = tht h W T g k) (eT : ∀ k, k ≤ h → tht h T T f k = tht h T T g k) (C : SForm) :
    ∀ k, k ≤ h → tht h W T (substA x f C) k = tht h W T (substA x g C) k := by
  intro k hk
  have agree : ∀ {u v : Nat → Bool} (V : Trace), (∀ k, k ≤ h → u k = v k) →
      AgreeOn (SForm.names C) h (setAtom V x u) (setAtom V x v) := by
    intro u v V huv j hj a _
    simp only [setAtom]
    split
    · exact huv j hj
    · rfl
  rw [tht_substA, tht_substA]
  exact tht_congr_on _ h C (fun _ ha => ha) _ _ _ _ (agree W eW) (agree T eT) k hk

theorem subst_congr (h : Nat) (x : String) (f g : SForm) (e : Eqv h f g) (C : SForm) :
    Eqv h (substA x f C) (substA x g C) :=
  fun W T => substA_congr h x f g (e W T) (e T T) C

def revTrace (h : Nat) (tr : Trace) : Trace := fun j a => tr (h - j) a

def mirror : SForm → SForm
  | .atom a => .atom a
  | .kw .kinitial => .kw .kfinal
  | .kw .kfinal => .kw .kinitial
  | .kw k => .kw k
  | .neg f => .neg (mirror f)
  | .bin op l r => .bin op (mirror l) (mirror r)
  | .prev n w f => .next n w (mirror f)
  | .next n w f => .prev n w (mirror f)
  | .since l r => .unt (mirror l) (mirror r)
  | .trigger l r => .rel (mirror l) (mirror r)
  | .evP r => .evF (mirror r)
  | .alP r => .alF (mirror r)
  | .unt l r => .since (mirror l) (mirror r)
  | .rel l r => .trigger (mirror l) (mirror r)
  | .evF r => .evP (mirror r)
  | .alF r => .alP (mirror r)
  | .initially f => .finally_ (mirror f)
  | .finally_ f => .initially (mirror f)
  | .seqPrev w l r => .bin .and (.next 1 w (mirror l)) (mirror r)
  | .seqNext w l r => .bin .and (mirror l) (.prev 1 w (mirror r))

theorem tht_mirror (h : Nat) (f : SForm) {W T W' T' : Trace} (hW : Rev h W W') (hT : Rev h T T') :
    Rev h (tht h W T f) (tht h W' T' (mirror f)) := by
  induction f generalizing W W' with
  | atom a => exact fun k hk => congrFun (hW k hk) a
  | kw w =>
    intro k hk
    cases w
    · rfl
    · rfl
    · have first : k = 0 ↔ h - k = h := by rw [Nat.sub_eq_iff_eq_add hk, Nat.left_eq_add]
      exact decide_eq_decide.mpr first
    · have last : k = h ↔ h - k = 0 := by rw [Nat.sub_eq_zero_iff_le, Nat.le_antisymm_iff, and_iff_right hk]
      exact decide_eq_decide.mpr last
  | neg f ih => exact (ih hT).not
  | bin op l r ihl ihr =>
    intro k hk
    show _ = tht h W' T' (.bin op (mirror l) (mirror r)) (h - k)
    rw [tht_bin, tht_bin, ihl hW k hk, ihr hW k hk, ihl hT k hk, ihr hT k hk]
  | prev n w f ih => exact prev_rev n w (ih hW)
  | next n w f ih => exact (prev_rev n w (ih hW).symm).symm
  -- `tht` of a temporal operator is by definition its `…B` function of the values of the operands
  | since l r ihl ihr => exact sinceB_rev (ihl hW) (ihr hW)
  | trigger l r ihl ihr => exact triggerB_rev (ihl hW) (ihr hW)
  | evP r ih => exact evPB_rev (ih hW)
  | alP r ih => exact alPB_rev (ih hW)
  | unt l r ihl ihr => exact (sinceB_rev (ihl hW).symm (ihr hW).symm).symm
  | rel l r ihl ihr => exact (triggerB_rev (ihl hW).symm (ihr hW).symm).symm
  | evF r ih => exact (evPB_rev (ih hW).symm).symm
  | alF r ih => exact (alPB_rev (ih hW).symm).symm
  | initially f ih => exact fun _ _ => ih hW 0 (Nat.zero_le h)
  | finally_ f ih => exact fun _ _ => (ih hW h (Nat.le_refl h)).trans (congrArg (tht h _ _ (mirror f)) (Nat.sub_self h))
  | seqPrev w l r ihl ihr => exact (prev_rev 1 w (ihl hW)).and (ihr hW)
  | seqNext w l r ihl ihr => exact (ihl hW).and (prev_rev 1 w (ihr hW).symm).symm

theorem mirror_sym (h : Nat) : ∀ (f : SForm) (tr : Trace) (k : Nat), k ≤ h →
    docSem h tr f k = docSem h (revTrace h tr) (mirror f) (h - k) :=
  fun f tr => tht_mirror h f (Rev.flip h tr) (Rev.flip h tr)

end TelProofs
