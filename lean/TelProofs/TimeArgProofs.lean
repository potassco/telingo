/-
C06: the time parameter is added uniformly — adding it commutes with pool expansion and classical negation
(`addTime_insts`): every instance of the atom term gets the parameters its own predicate name asks for and the state is the one
obtained by handling the instances one by one (`stampState`); hence the bookkeeping of future predicates records each
instance with its own sign (`stampState_futures`) and `max_shift` ends as the maximum over all instances
(`stampState_maxShift_covers`, `_attained`).
-/
import TelModel.TimeArg
import TelProofs.RejectProofs

namespace TelProofs
open TelModel TelModel.Generated

theorem stampState_append (rf ff fp : Bool) (l2 : List Inst) : ∀ (l1 : List Inst) (st : TState),
    stampState rf ff fp st (l1 ++ l2) = stampState rf ff fp st l1 >>= fun s => stampState rf ff fp s l2
  | [], st => rfl
  | i :: is, st => by
    simp only [List.cons_append, stampState, bind_assoc, stampState_append rf ff fp l2 is]

mutual
theorem addTime_insts (rf ff fp : Bool) : ∀ (t : ATerm) (pos : Bool) (st : TState) (t' : RTerm) (st' : TState),
    addTime rf ff fp pos st t = .ok (t', st') →
    (t.insts pos).mapM (stamp rf ff fp) = .ok (t'.insts pos) ∧ stampState rf ff fp st (t.insts pos) = .ok st'
  | .fn name args, pos, st, t', st' => by
    intro h
    rw [addTime] at h
    obtain ⟨r, hg, h⟩ := bind_eq_ok.mp h
    cases h
    simp only [ATerm.insts, RTerm.insts, List.mapM_cons, List.mapM_nil, stamp, stampState, hg]
    exact ⟨rfl, rfl⟩
  | .neg t, pos, st, t', st' => by
    intro h
    rw [addTime] at h
    obtain ⟨⟨u, su⟩, hr, h⟩ := bind_eq_ok.mp h
    cases h
    exact addTime_insts rf ff fp t (!pos) st _ _ hr
  | .pool ts, pos, st, t', st' => by
    intro h
    rw [addTime] at h
    obtain ⟨⟨us, su⟩, hr, h⟩ := bind_eq_ok.mp h
    cases h
    exact addTimes_insts rf ff fp ts pos st _ _ hr
theorem addTimes_insts (rf ff fp : Bool) : ∀ (ts : List ATerm) (pos : Bool) (st : TState) (ts' : List RTerm) (st' : TState),
    addTimes rf ff fp pos st ts = .ok (ts', st') →
    (ATerm.instsL pos ts).mapM (stamp rf ff fp) = .ok (RTerm.instsL pos ts') ∧
      stampState rf ff fp st (ATerm.instsL pos ts) = .ok st'
  | [], pos, st, ts', st' => by
    intro h
    cases h
    exact ⟨rfl, rfl⟩
  | t :: ts, pos, st, ts', st' => by
    intro h
    rw [addTimes] at h
    obtain ⟨⟨u, s1⟩, h1, h⟩ := bind_eq_ok.mp h
    obtain ⟨⟨us, s2⟩, h2, h⟩ := bind_eq_ok.mp h
    cases h
    have a1 := addTime_insts rf ff fp t pos st u s1 h1
    have a2 := addTimes_insts rf ff fp ts pos s1 _ _ h2
    rw [ATerm.instsL, RTerm.instsL, List.mapM_append, stampState_append, a1.1, a1.2, a2.1]
    exact ⟨rfl, a2.2⟩
end

theorem stepState_maxShift (st : TState) (r : ParamRes) (n : String) (a : Nat) (p : Bool) :
    (stepState st r n a p).maxShift =
      if r.shift > 0 ∧ r.future = false then max st.maxShift r.shift else st.maxShift := by
  unfold stepState
  by_cases hpos : r.shift > 0
  · cases hf : r.future
    · simp only [hpos, if_true, and_self, Bool.false_eq_true, if_false]
    · simp only [hpos, if_true, true_and, Bool.true_eq_false, if_false]
  · simp only [hpos, false_and, if_false]

theorem mem_stepState_futures (st : TState) (r : ParamRes) (n : String) (a : Nat) (p : Bool)
    (x : String × Nat × Bool × Int) :
    x ∈ (stepState st r n a p).futures ↔
      x ∈ st.futures ∨ r.shift > 0 ∧ r.future = true ∧ x = ((r.name.drop futurePrefix.length).toString, a, p, r.shift) := by
  unfold stepState
  by_cases hpos : r.shift > 0
  · cases hf : r.future
    · simp only [hpos, if_true, Bool.false_eq_true, if_false, false_and, and_false, or_false]
    · simp only [hpos, if_true, true_and]
      split
      · rename_i hc
        exact ⟨Or.inl, fun h => h.elim id (fun h => h ▸ List.contains_iff_mem.mp hc)⟩
      · simp only [List.mem_append, List.mem_singleton]
  · simp only [hpos, if_false, false_and, or_false]

theorem stampState_induct {rf ff fp : Bool} (P : TState → Prop) {is : List Inst} {st st' : TState}
    (h : stampState rf ff fp st is = .ok st') (h0 : P st)
    (step : ∀ i ∈ is, ∀ r s, getParam i.name rf ff fp = .ok r → P s →
      P (stepState s r i.name i.args.length i.positive)) : P st' := by
  induction is generalizing st with
  | nil =>
    cases h
    exact h0
  | cons i is ih =>
    rw [stampState] at h
    obtain ⟨r, hr, h⟩ := bind_eq_ok.mp h
    exact ih h (step i List.mem_cons_self r st hr h0) (fun j hj => step j (List.mem_cons_of_mem _ hj))

theorem stampState_of_mem {rf ff fp : Bool} (P : TState → Prop)
    (keep : ∀ s r n a p, P s → P (stepState s r n a p)) {i : Inst} {r : ParamRes}
    (hr : getParam i.name rf ff fp = .ok r) (hi : ∀ s, P (stepState s r i.name i.args.length i.positive))
    {is : List Inst} {st st' : TState} (h : stampState rf ff fp st is = .ok st') (hmem : i ∈ is) : P st' := by
  obtain ⟨l1, l2, rfl⟩ := List.append_of_mem hmem
  rw [stampState_append] at h
  obtain ⟨s, _, h⟩ := bind_eq_ok.mp h
  rw [stampState, hr] at h
  exact stampState_induct P h (hi s) (fun _ _ _ _ _ => keep _ _ _ _ _)

theorem stampState_maxShift_covers {rf ff fp : Bool} {is : List Inst} {st st' : TState}
    (h : stampState rf ff fp st is = .ok st') :
    ∀ i ∈ is, ∀ r, getParam i.name rf ff fp = .ok r → r.shift > 0 → r.future = false → r.shift ≤ st'.maxShift := by
  intro i hi r hr hpos hnf
  refine stampState_of_mem (fun s => r.shift ≤ s.maxShift) ?_ hr ?_ h hi
  · intro s r' n a p hs
    rw [stepState_maxShift]
    split
    · exact Int.le_trans hs (Int.le_max_left _ _)
    · exact hs
  · intro s
    rw [stepState_maxShift, if_pos ⟨hpos, hnf⟩]
    exact Int.le_max_right _ _

theorem stampState_maxShift_attained {rf ff fp : Bool} {is : List Inst} {st st' : TState}
    (h : stampState rf ff fp st is = .ok st') :
    st'.maxShift = st.maxShift ∨
      ∃ i ∈ is, ∃ r, getParam i.name rf ff fp = .ok r ∧ r.shift > 0 ∧ r.future = false ∧ r.shift = st'.maxShift := by
  refine stampState_induct (fun s => s.maxShift = st.maxShift ∨
      ∃ i ∈ is, ∃ r, getParam i.name rf ff fp = .ok r ∧ r.shift > 0 ∧ r.future = false ∧ r.shift = s.maxShift)
    h (Or.inl rfl) ?_
  intro i hi r s hr hs
  rw [stepState_maxShift]
  split
  · rename_i hc
    rcases Int.le_total r.shift s.maxShift with hle | hle
    · rwa [Int.max_eq_left hle]
    · rw [Int.max_eq_right hle]
      exact Or.inr ⟨i, hi, r, hr, hc.1, hc.2, rfl⟩
  · exact hs

theorem stampState_futures {rf ff fp : Bool} {is : List Inst} {st st' : TState}
    (h : stampState rf ff fp st is = .ok st') :
    ∀ i ∈ is, ∀ r, getParam i.name rf ff fp = .ok r → r.shift > 0 → r.future = true →
      ((r.name.drop futurePrefix.length).toString, i.args.length, i.positive, r.shift) ∈ st'.futures := by
  intro i hi r hr hpos hf
  refine stampState_of_mem (fun s => _ ∈ s.futures) ?_ hr ?_ h hi
  · intro s r' n a p hs
    exact (mem_stepState_futures ..).mpr (Or.inl hs)
  · intro s
    exact (mem_stepState_futures ..).mpr (Or.inr ⟨hpos, hf, rfl⟩)

mutual
theorem addTime_noInternal (rf ff fp : Bool) : ∀ (t : ATerm) (pos : Bool) (st : TState), NoInternal (addTime rf ff fp pos st t)
  | .fn name args, pos, st => by simp only [addTime, noint]
  | .neg t, pos, st => by simp only [addTime, noint, addTime_noInternal rf ff fp t]
  | .pool ts, pos, st => by simp only [addTime, noint, addTimes_noInternal rf ff fp ts]
theorem addTimes_noInternal (rf ff fp : Bool) : ∀ (ts : List ATerm) (pos : Bool) (st : TState), NoInternal (addTimes rf ff fp pos st ts)
  | [], pos, st => by simp only [addTimes, noint]
  | t :: ts, pos, st => by simp only [addTimes, noint, addTime_noInternal rf ff fp t, addTimes_noInternal rf ff fp ts]
end

end TelProofs
