/-
What the rule emitted for one clause of a shifted and unfolded head formula means (`ClauseToRule`, `translate_clause`): the
rule `atoms of this step ← not l₁, …, not lₘ` holds in a world `(W, T)` exactly when the clause holds with every shifted part
read in the there-world `T` — the clause with its off-time parts under double negation, as the documentation of
`HeadFormula.translate` says (`rule_reads_clause`, and `emitted_rule_reads_clause` for the clauses the translation delivers);
on a total world the rule is the clause (`rule_total`).  The body formula behind a negated literal has the value of the
shifted part it stands for (`sem_toBody`, `sem_shiftBody`).
-/
import TelModel.HeadRule
import TelProofs.HeadShift
import TelProofs.SemEqn

namespace TelProofs
open TelSpec TelModel

theorem sem_toBody (h : Nat) (T : Trace) (lv : Int → Bool) : ∀ (f : HForm), noShift f = true →
    (toBody f).sem h T lv = hsem h T T f := by
  intro f
  induction f with
  | atom | const => exact fun _ => rfl
  | next n f w ih =>
    intro hn
    funext k
    show (if k + n ≤ h then (toBody f).sem h T lv (k + n) else w) = if k + n ≤ h then hsem h T T f (k + n) else w
    rw [ih hn]
  | until2 l r u ihl ihr =>
    intro hn
    obtain ⟨hl, hr⟩ := Bool.and_eq_true_iff.mp hn
    funext k
    rw [toBody, sem_telN2, hsem_until2, ihl hl, ihr hr]
    cases u <;> rfl
  | until1 r u ihr =>
    intro hn
    funext k
    rw [toBody, sem_telN1, hsem_until1, ihr hn]
    cases u <;> rfl
  | clause2 l r c ihl ihr =>
    intro hn
    obtain ⟨hl, hr⟩ := Bool.and_eq_true_iff.mp hn
    funext k
    rw [toBody, sem_bin, hsem_clause, ihl hl, ihr hr]
    cases c
    · exact binSem_or _ _
    · exact binSem_and _ _
  | neg f ih =>
    intro hn
    funext k
    show (!(toBody f).sem h T lv k) = !hsem h T T f k
    rw [ih hn]
  | shift n f ih => exact fun hn => nomatch hn

theorem sem_shiftBody (h : Nat) (T : Trace) (lv : Int → Bool) (n : Int) (f : HForm) (hn : noShift f = true) (k : Nat)
    (hk : k ≤ h) : (shiftBody n f).sem h T lv k = hsem h T T (.shift n f) k := by
  unfold shiftBody
  split
  · next h0 => rw [h0, hsem_shift_zero h T T f k hk, sem_toBody h T lv f hn]
  · split
    · next hp =>
      rw [hsem_shift_fwd h T T (Int.le_of_lt hp), ← sem_toBody h T lv f hn]
      rfl
    · next h0 hp =>
      have hneg : ¬ 0 ≤ n := fun hle => (Int.lt_or_eq_of_le hle).elim hp fun e => h0 e.symm
      rw [hsem_shift_bwd h T T hneg, ← sem_toBody h T lv f hn]
      rfl

/-- here-and-there satisfaction of the emitted rule, its own body atom being true -/
def ruleSat (h : Nat) (W T : Trace) (lv : Int → Bool) (k : Nat) (es : List RuleElem) : Bool :=
  (es.any fun e => match e with
    | .nbody f => f.sem h T lv k
    | _ => false) ||
  (es.any fun e => match e with
    | .head p n a => W k (atomKey n a p)
    | _ => false)

/-- the clause with its shifted parts read in the there-world (double negation) -/
def dnegClause (h : Nat) (W T : Trace) (k : Nat) (c : List HForm) : Bool :=
  c.any fun x => match x with
    | .atom p n a => W k (atomKey n a p)
    | .shift n f => hsem h T T (.shift n f) k
    | _ => false

/-- a clause as `unfold_formula` delivers it after `shift_formula`: atoms of the current step and shifted parts -/
def clauseShape (c : List HForm) : Prop :=
  ∀ x ∈ c, (∃ p n a, x = .atom p n a) ∨ (∃ n f, x = .shift n f ∧ noShift f = true)

theorem rule_reads_clause (h : Nat) (W T : Trace) (lv : Int → Bool) (k : Nat) (hk : k ≤ h) (c : List HForm)
    (hc : clauseShape c) : ruleSat h W T lv k (ruleShape c) = dnegClause h W T k c := by
  induction c with
  | nil => rfl
  | cons x xs ih =>
    have ih := ih fun y hy => hc y (List.mem_cons_of_mem _ hy)
    simp only [ruleSat, ruleShape, dnegClause, List.map_cons, List.any_cons] at ih ⊢
    rw [← ih]
    -- the element joins one of the two disjunctions of the rule: an atom the head, a shifted part the negated body
    rcases hc x List.mem_cons_self with ⟨p, n, a, rfl⟩ | ⟨n, f, rfl, hn⟩
    · simp only [ruleElem]
      rw [Bool.false_or, Bool.or_left_comm]
    · simp only [ruleElem]
      rw [Bool.false_or, Bool.or_assoc, sem_shiftBody h T lv n f hn k hk]

inductive Shifted : HForm → Prop where
  | atom (p n a) : Shifted (.atom p n a)
  | shift (n f) (hn : noShift f = true) : Shifted (.shift n f)
  | clause (l r c) (hl : Shifted l) (hr : Shifted r) : Shifted (.clause2 l r c)

theorem shiftF_shifted : ∀ (d : Nat) (f : HForm), noShift f = true → Shifted (shiftF d f) := by
  intro d f
  induction d, f using shiftF_induct with
  | atom s p n a =>
    intro _
    rw [shiftF]
    split
    · exact .atom p n a
    · exact .shift _ _ rfl
  | next s n f w ih =>
    intro hf
    rw [shiftF]
    split
    · next hn => exact ih hn hf
    · exact .shift _ _ hf
  | until2 s l r u ihl ihr ihn _ =>
    intro hf
    obtain ⟨hl, hr⟩ := Bool.and_eq_true_iff.mp hf
    rw [shiftF_until2]
    exact .clause _ _ _ (ihr hr) (.clause _ _ _ (ihl hl) (ihn hf))
  | until1 s r u ihr ihn _ =>
    intro hf
    rw [shiftF_until1]
    exact .clause _ _ _ (ihr hf) (ihn hf)
  | clause2 s l r c ihl ihr =>
    intro hf
    obtain ⟨hl, hr⟩ := Bool.and_eq_true_iff.mp hf
    rw [shiftF]
    exact .clause _ _ _ (ihl hl) (ihr hr)
  | neg | const =>
    intro hf
    rw [shiftF]
    exact .shift _ _ hf
  | shift s n f => exact fun hf => nomatch hf

theorem unfold_shape : ∀ (f : HForm), Shifted f → ∀ c ∈ unfoldF f, clauseShape c := by
  intro f hf
  induction hf with
  | atom p n a =>
    intro c hc x hx
    obtain rfl := List.mem_singleton.mp hc
    exact .inl ⟨p, n, a, List.mem_singleton.mp hx⟩
  | shift n f hn =>
    intro c hc x hx
    obtain rfl := List.mem_singleton.mp hc
    exact .inr ⟨n, f, List.mem_singleton.mp hx, hn⟩
  | clause l r cj _ _ ihl ihr =>
    intro c hc x hx
    obtain ⟨c', hc' | hc', hx'⟩ := mem_unfoldF_clause2 hc hx
    · exact ihl c' hc' x hx'
    · exact ihr c' hc' x hx'

theorem emitted_rule_reads_clause (h : Nat) (W T : Trace) (lv : Int → Bool) (d : Nat) (f : HForm) (hn : noShift f = true)
    (k : Nat) (hk : k ≤ h) (c : List HForm) (hc : c ∈ unfoldF (shiftF d f)) :
    ruleSat h W T lv k (ruleShape c) = dnegClause h W T k c :=
  rule_reads_clause h W T lv k hk c (unfold_shape _ (shiftF_shifted d f hn) c hc)

theorem rule_total (h : Nat) (T : Trace) (lv : Int → Bool) (k : Nat) (hk : k ≤ h) (c : List HForm) (hc : clauseShape c) :
    ruleSat h T T lv k (ruleShape c) = c.any fun x => hsem h T T x k := by
  rw [rule_reads_clause h T T lv k hk c hc]
  exact any_congr_mem fun x hx => by rcases hc x hx with ⟨p, n, a, rfl⟩ | ⟨n, f, rfl, _⟩ <;> rfl

end TelProofs
