/-
The recursion of `BodyFormula.translate` (model TelModel/TranslateRec.lean).  What the subtype of `TR.tr` carries, under names
(`translate_returns`, `literals_stay_below`, `fixed_never_asserts`); the state `tr` returns, as one equation (`tr_val`); and
`unfixed_asserts`: without the second look of the Boolean connectives (`fixed = false`) the assertion of
`StepData.add_literal` fails on every cycle of a Boolean pair and a box / diamond pair that unfolds to it.
-/
import TelModel.TranslateRec

namespace TelProofs.TRP
open TelModel.TR

theorem translate_returns {n : Nat} (G : Graph n) (hG : G.ok) (fixed : Bool) (k : Fin n) (s : St n) :
    (tr G hG fixed k s).1.set k = true ∧ s.le (tr G hG fixed k s).1 :=
  ⟨(tr G hG fixed k s).2.2.1, (tr G hG fixed k s).2.1⟩

theorem fixed_never_asserts {n : Nat} (G : Graph n) (hG : G.ok) (hr : G.wok) (k : Fin n) (s : St n) (h : s.err = false) :
    (tr G hG true k s).1.err = false :=
  (tr G hG true k s).2.2.2.2 hr rfl h

theorem literals_stay_below {n : Nat} (G : Graph n) (hG : G.ok) (hr : G.wok) (fixed : Bool) (k : Fin n) (s : St n) (i : Fin n)
    (h : (tr G hG fixed k s).1.set i = true) : s.set i = true ∨ G.wrank i ≤ G.wrank k :=
  (tr G hG fixed k s).2.2.2.1 hr i h

/-- memoisation: a pair that has its literal is not translated again -/
theorem translate_memo {n : Nat} (G : Graph n) (hG : G.ok) (fixed : Bool) (k : Fin n) (s : St n) (h : s.set k = true) :
    (tr G hG fixed k s).1 = s := by
  rw [tr, dif_pos h]

theorem translate_idempotent {n : Nat} (G : Graph n) (hG : G.ok) (fixed : Bool) (k : Fin n) (s : St n) :
    (tr G hG fixed k (tr G hG fixed k s).1).1 = (tr G hG fixed k s).1 :=
  translate_memo G hG fixed k _ (translate_returns G hG fixed k s).1

/-- the state `tr` returns for a pair without literal, without the facts that come with it -/
theorem tr_val {n : Nat} (G : Graph n) (hG : G.ok) (fixed : Bool) (k : Fin n) (s : St n) (hs : s.set k = false) :
    (tr G hG fixed k s).1 =
      match G.kind k with
      | .leaf => s.put k
      | .alias c => (tr G hG fixed c s).1.put k
      | .op recheck a b =>
        let s2 := (tr G hG fixed b (tr G hG fixed a s).1).1
        if (fixed && recheck && s2.set k) = true then s2 else s2.addLiteral k
      | .op3 a b c => (tr G hG fixed c (tr G hG fixed b (tr G hG fixed a s).1).1).1.addLiteral k
      | .early c => (tr G hG fixed c (s.put k)).1 := by
  rw [tr, dif_neg (by simp [hs])]
  -- in every case: name the results of the recursive calls, then both sides are the same term
  split
  next hk => simp only [hk]
  next c hk =>
    simp only [hk]
    obtain ⟨s1, _, _, _, _⟩ := tr G hG fixed c s
    rfl
  next r a b hk =>
    simp only [hk]
    obtain ⟨s1, _, _, _, _⟩ := tr G hG fixed a s
    dsimp only
    obtain ⟨s2, _, _, _, _⟩ := tr G hG fixed b s1
    dsimp only
    split <;> rfl
  next a b c hk =>
    simp only [hk]
    obtain ⟨s1, _, _, _, _⟩ := tr G hG fixed a s
    dsimp only
    obtain ⟨s2, _, _, _, _⟩ := tr G hG fixed b s1
    dsimp only
    obtain ⟨s3, _, _, _, _⟩ := tr G hG fixed c s2
    rfl
  next c hk =>
    simp only [hk]
    obtain ⟨s1, _, _, _, _⟩ := tr G hG fixed c (s.put k)
    rfl

theorem unfixed_asserts {n : Nat} (G : Graph n) (hG : G.ok) (k a b : Fin n) (r : Bool) (s : St n)
    (hk : G.kind k = .op r a b) (ha : G.kind a = .early k) (hsk : s.set k = false) (hsa : s.set a = false) :
    (tr G hG false k s).1.err = true := by
  rw [tr_val G hG false k s hsk, hk]
  simp only [Bool.false_and, Bool.false_eq_true, if_false]
  rw [tr_val G hG false a s hsa, ha]
  -- the unfolding of `a` has translated `k`, and `b` keeps its literal: `add_literal` finds one
  have h2 := (translate_returns G hG false b _).2 k (translate_returns G hG false k (s.put a)).1
  rw [St.addLiteral, if_pos h2]

/-- the smallest cycle: a Boolean pair (0) whose first operand is a box / diamond pair (1) that unfolds to the Boolean pair
    again; pair 2 is an atom.  (`<(a?)*> …`-like unfoldings outside the normal form have this shape.) -/
def cyc : Graph 3 where
  kind := fun k => if k.val = 0 then .op true ⟨1, by omega⟩ ⟨2, by omega⟩ else if k.val = 1 then .early ⟨0, by omega⟩ else .leaf
  rank := fun k => if k.val = 0 then 1 else 0

theorem cyc_ok : cyc.ok := Graph.okB_ok cyc (by decide)

instance {n : Nat} (G : Graph n) : Decidable G.wok :=
  @Nat.decidableForallFin n _ fun k => by
    cases G.kind k <;> exact inferInstance

theorem cyc_wok : cyc.wok := by decide

def init3 : St 3 := { set := fun _ => false }

/-- the smallest cycle meets the hypotheses of both theorems -/
example : cyc.ok ∧ cyc.wok ∧ cyc.kind ⟨0, by omega⟩ = .op true ⟨1, by omega⟩ ⟨2, by omega⟩ ∧
    cyc.kind ⟨1, by omega⟩ = .early ⟨0, by omega⟩ :=
  ⟨cyc_ok, cyc_wok, rfl, rfl⟩

/-- a cycle with an until pair hanging off it (`<(a?)*> (b >? c)`-like): Boolean pair 0 with operands 1 (box / diamond pair that
    unfolds to 0) and 2 (an until pair over the atom 3); the hypotheses of `fixed_never_asserts` hold -/
def cycT : Graph 4 where
  kind := fun k => if k.val = 0 then .op true ⟨1, by omega⟩ ⟨2, by omega⟩ else if k.val = 1 then .early ⟨0, by omega⟩
                   else if k.val = 2 then .op false ⟨3, by omega⟩ ⟨3, by omega⟩ else .leaf
  rank := fun k => if k.val = 0 then 2 else if k.val = 2 then 1 else 0
  wrank := fun k => if k.val = 3 then 0 else 1

example : cycT.ok ∧ cycT.wok := ⟨Graph.okB_ok cycT (by decide), by decide⟩

end TelProofs.TRP
