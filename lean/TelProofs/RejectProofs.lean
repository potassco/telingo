/-
C11: what `__get_param` computes on a name `'^l core '^t` — the core (`stripPrimes`) and the number of leading primes;
C15: it never ends in an internal error.
-/
import TelModel.Reject
import TelProofs.PyLemmas

namespace TelProofs
open TelModel

def primes (n : Nat) : List Char := List.replicate n '\''

/-- a predicate name core: non-empty, no prime at either end -/
def CleanCore (core : List Char) : Prop :=
  core ≠ [] ∧ (∀ c, core.head? = some c → isPrime c = false) ∧ (∀ c, core.getLast? = some c → isPrime c = false)

theorem isPrime_of_mem_primes {n : Nat} (c : Char) (h : c ∈ primes n) : isPrime c = true := by
  rw [List.eq_of_mem_replicate h]
  rfl

theorem takeWhile_clean {core : List Char} (h : ∀ c, core.head? = some c → isPrime c = false) :
    core.takeWhile isPrime = [] := by
  cases core with
  | nil => rfl
  | cons c cs => exact List.takeWhile_cons_of_neg (Bool.eq_false_iff.1 (h c rfl))

theorem dropWhile_clean {core : List Char} (h : ∀ c, core.head? = some c → isPrime c = false) :
    core.dropWhile isPrime = core := by
  cases core with
  | nil => rfl
  | cons c cs => exact List.dropWhile_cons_of_neg (Bool.eq_false_iff.1 (h c rfl))

theorem CleanCore.head_append {core : List Char} (hc : CleanCore core) (rest : List Char) :
    ∀ c, (core ++ rest).head? = some c → isPrime c = false := by
  obtain ⟨hne, hh, _⟩ := hc
  cases core with
  | nil => exact absurd rfl hne
  | cons x xs => exact hh

theorem stripPrimes_spec (l t : Nat) (core : List Char) (hc : CleanCore core) :
    stripPrimes (primes l ++ core ++ primes t) = core := by
  have hrev : ∀ c, core.reverse.head? = some c → isPrime c = false := by
    rw [List.head?_reverse]
    exact hc.2.2
  rw [stripPrimes, List.append_assoc, List.dropWhile_append_of_pos isPrime_of_mem_primes, dropWhile_clean (hc.head_append _),
    List.reverse_append, show (primes t).reverse = primes t from List.reverse_replicate ..,
    List.dropWhile_append_of_pos isPrime_of_mem_primes, dropWhile_clean hrev, List.reverse_reverse]

theorem leadingPrimes_spec (l t : Nat) (core : List Char) (hc : CleanCore core) :
    leadingPrimes (primes l ++ core ++ primes t) = l := by
  rw [leadingPrimes, List.append_assoc, List.takeWhile_append_of_pos isPrime_of_mem_primes, takeWhile_clean (hc.head_append _),
    List.append_nil, primes, List.length_replicate]

@[noint] theorem getParam_noInternal (name : String) (rf ff fp : Bool) : NoInternal (getParam name rf ff fp) := by
  simp only [getParam, getParamL, noint]

end TelProofs
