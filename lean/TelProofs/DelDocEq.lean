/-
`del_doc_eq` (C05): `create_dynamic_formula` / `create_path` applied to the term of a specification-level LDL_f formula
(`toTermD`, `toTermP`) yield a code-level formula with the specified semantics, in normal form if the formula is.
The code-level path and formula are functions `mpath`, `mdyn`; proofs use them through `createPath_toTermP`,
`createDynamicFormula_toTermD`, `mpath_runs`, `mpath_normal`, `isDel_mdyn`, `sem_mdyn`, `mdyn_value`.
-/
import TelProofs.DocTerm
import TelProofs.Tseitin

namespace TelProofs
open TelSpec TelModel TelModel.Generated

def toTermT : DTest → TTerm
  | .atom a => .sym a
  | .const b => .fn "&" [.sym (if b then "true" else "false")]

def toTermP : DPath → TTerm
  | .skip => .fn "&" [.sym "true"]
  | .test t => .fn "?" [toTermT t]
  | .step a => .sym a
  | .choice l r => .fn "+" [toTermP l, toTermP r]
  | .seq l r => .fn ";;" [toTermP l, toTermP r]
  | .star p => .fn "*" [toTermP p]

def toTermD : DForm → TTerm
  | .atom a => .sym a
  | .const b => .fn "&" [.sym (if b then "true" else "false")]
  | .final => .fn "&" [.sym "final"]
  | .dia p f => .fn ".>?" [toTermP p, toTermD f]
  | .box p f => .fn ".>*" [toTermP p, toTermD f]

def mtest : DTest → PTest
  | .atom a => .atom a [] true
  | .const b => .const b

def mpath : DPath → Path
  | .skip => .skip
  | .test t => .check (mtest t)
  | .step a => .seq (.check (.atom a [] true)) .skip
  | .choice l r => .choice (mpath l) (mpath r)
  | .seq l r => .seq (mpath l) (mpath r)
  | .star p => .star (mpath p)

def GoodT : DTest → Prop
  | .atom a => GoodAtom a
  | .const _ => True

def GoodP : DPath → Prop
  | .skip => True
  | .test t => GoodT t
  | .step a => GoodAtom a
  | .choice l r => GoodP l ∧ GoodP r
  | .seq l r => GoodP l ∧ GoodP r
  | .star p => GoodP p

def GoodD : DForm → Prop
  | .atom a => GoodAtom a
  | .const _ => True
  | .final => True
  | .dia p f => GoodP p ∧ GoodD f
  | .box p f => GoodP p ∧ GoodD f

attribute [-simp] BEq.rfl in  -- slow on comparisons of string literals: see `SemEqn`
theorem createPath_toTermP (p : DPath) (hg : GoodP p) : createPath (toTermP p) = .ok (mpath p) := by
  induction p with
  | skip => rfl
  | test t =>
    cases t with
    | atom a =>
      simp [toTermP, toTermT, createPath, pathBinaryOperators, pathUnaryOperators, createPathCheck,
        createAtom_good a hg, atomToTest, mpath, mtest]
    | const b =>
      cases b <;> simp [toTermP, toTermT, createPath, pathBinaryOperators, pathUnaryOperators, createPathCheck,
        kwName, mpath, mtest]
  | step a => simp [toTermP, createPath, createAtom_good a hg, atomToTest, mpath]
  | choice l r ihl ihr | seq l r ihl ihr =>
    simp [toTermP, createPath, pathBinaryOperators, ihl hg.1, ihr hg.2, mpath]
  | star p ih =>
    simp [toTermP, createPath, pathBinaryOperators, pathUnaryOperators, ih hg, mpath]

theorem mtest_holds (h : Nat) (tr : Trace) (t : DTest) (hg : GoodT t) (k : Nat) :
    (mtest t).holds (withAdmin h tr) k = t.holds tr k := by
  cases t with
  | atom a => exact withAdmin_good h tr k hg
  | const b => rfl

theorem mpath_runs (h : Nat) (tr : Trace) (p : DPath) (hg : GoodP p) :
    (mpath p).runs h (withAdmin h tr) = runs h tr p := by
  induction p with
  | skip => rfl
  | test t =>
    funext k j
    show (j == k && (mtest t).holds (withAdmin h tr) k) = (j == k && t.holds tr k)
    rw [mtest_holds h tr t hg]
  | step a =>
    -- the code reads a step as the test `a?` followed by `skip`: the position in between is `k` itself
    funext k j
    apply Bool.eq_iff_iff.mpr
    simp only [mpath, Path.runs, runs, anyUpTo_iff, Bool.and_eq_true, beq_iff_eq, decide_eq_true_eq,
      PTest.holds, withAdmin_good h tr _ hg]
    constructor
    · rintro ⟨m, _, ⟨rfl, ha⟩, hj, hjh⟩
      exact ⟨ha, hj, hjh⟩
    · rintro ⟨ha, hj, hjh⟩
      exact ⟨k, Nat.le_of_succ_le (hj ▸ hjh : k + 1 ≤ h), ⟨rfl, ha⟩, hj, hjh⟩
  -- the specification's `runs` is by definition the same combinator of the relations of the parts
  | choice l r ihl ihr => exact (congr (congrArg choiceR (ihl hg.1)) (ihr hg.2) : choiceR _ _ = choiceR _ _)
  | seq l r ihl ihr => exact (congr (congrArg (seqR h) (ihl hg.1)) (ihr hg.2) : seqR h _ _ = seqR h _ _)
  | star p ih => exact (congrArg (starR h) (ih hg) : starR h _ = starR h _)

theorem mpath_normal (p : DPath) : pnormal (mpath p) = p.normal ∧ pconsumes (mpath p) = p.consumes := by
  induction p <;> simp [mpath, pnormal, pconsumes, DPath.normal, DPath.consumes, *]

def DelDocEq (s : DForm) (f : BForm) : Prop :=
  (s.normal = true → isDel f = true) ∧ ∀ (h : Nat) (tr : Trace) (lv : Int → Bool) (k : Nat), k ≤ h →
    f.sem h (withAdmin h tr) lv k = ldlSem h tr s k

/-- `&final` is `[&true] &false` in the code -/
def mdyn : DForm → BForm
  | .atom a => .atom a [] true
  | .const b => .const b
  | .final => .box .skip (.const false)
  | .dia p f => .dia (mpath p) (mdyn f)
  | .box p f => .box (mpath p) (mdyn f)

attribute [-simp] BEq.rfl in  -- as for `createPath_toTermP`
theorem createDynamicFormula_toTermD (s : DForm) (hg : GoodD s) : createDynamicFormula (toTermD s) = .ok (mdyn s) := by
  induction s with
  | atom a => exact createAtom_good a hg
  | const b => cases b <;> rfl
  | final => rfl
  | dia p f ih | box p f ih =>
    simp [toTermD, mdyn, createDynamicFormula, delOperators, createPath_toTermP p hg.1, ih hg.2]

theorem isDel_mdyn (s : DForm) (hn : s.normal = true) : isDel (mdyn s) = true := by
  induction s with
  | dia p f ih | box p f ih =>
    simp only [DForm.normal, Bool.and_eq_true] at hn
    simp [mdyn, isDel, (mpath_normal p).1, hn.1, ih hn.2]
  | _ => rfl

theorem sem_mdyn (h : Nat) (tr : Trace) (lv : Int → Bool) (s : DForm) (hg : GoodD s) :
    ∀ k, k ≤ h → (mdyn s).sem h (withAdmin h tr) lv k = ldlSem h tr s k := by
  induction s with
  | atom a => exact fun k _ => withAdmin_good h tr k hg
  | const b => exact fun k _ => rfl
  | final =>
    intro k hk
    show (BForm.box .skip (.const false)).sem h (withAdmin h tr) lv k = (k == h)
    rw [sem_box, runs_skip, boxR_skip]
    split
    · next hlt => exact (beq_eq_false_iff_ne.mpr (Nat.ne_of_lt hlt)).symm
    · next hge => exact (beq_iff_eq.mpr (Nat.le_antisymm hk (Nat.not_lt.mp hge))).symm
  | dia p f ih =>
    intro k _
    rw [mdyn, sem_dia, mpath_runs h tr p hg.1]
    exact diaR_congr fun j hj _ => ih hg.2 j hj
  | box p f ih =>
    intro k _
    rw [mdyn, sem_box, mpath_runs h tr p hg.1]
    exact boxR_congr fun j hj _ => ih hg.2 j hj

theorem mdyn_value (s : DForm) (hg : GoodD s) (hn : s.normal = true) {h : Nat} {tr : Trace} {lv : Int → Bool}
    {v : BForm → Nat → Bool} {S : BForm → Nat → Prop} (sys : Sys h (withAdmin h tr) lv v S) {k : Nat}
    (hS : S (mdyn s) k) : v (mdyn s) k = ldlSem h tr s k :=
  (del_unique sys _ (isDel_mdyn s hn) k hS).trans (sem_mdyn h tr lv s hg k (sys.bound _ _ hS))

theorem del_doc_eq (s : DForm) (hg : GoodD s) : ∃ f, createDynamicFormula (toTermD s) = .ok f ∧ DelDocEq s f :=
  ⟨mdyn s, createDynamicFormula_toTermD s hg, isDel_mdyn s, fun h tr lv => sem_mdyn h tr lv s hg⟩

end TelProofs
