/-
C02: for programs of the rule fragment with future heads and look-ahead constraints
(`progFut`), the stable models of `G P h` are exactly the embeddings of the temporal stable models of `P` over traces of
length `h+1`, at every horizon `h` (`full_stable_iff`).  A program of the core fragment — no future heads, no look-ahead —
derives no auxiliary atom, so there `embedF` is `embed` (`embedF_core`, `core_stable_iff`: C01).

The argument: in an HT interpretation that is `(W, T)` on the user atoms (`Agrees`), the instance made at step `s` for
position `t` reads as its rule at position `t` of `(W, T)` (`instSat_val`) — unless it is a temporary copy of an earlier
step, whose guard `__final(s)` is false at horizon `h`; every position has a copy that is alive (`G_sat_iff`).  The
auxiliary `__future_*` atoms are exactly those derived by a rule whose body holds (`futDerived`).
-/
import TelProofs.GroundLemmas
import TelProofs.TraceLemmas

namespace TelProofs
open TelSpec TelModel

/-! ### the fragments -/

def litCore : BLit → Bool
  | .atom _ _ sh => decide (sh ≤ 0)
  | .init _ _ => true
  | .kw _ _ => true
  | .tel _ _ => false
  | .del _ _ => false

def headCore : Head → Bool
  | .atom _ n => n == 0
  | .disj _ => true
  | .choice _ => true
  | .falsum => true
  | .nlit _ _ _ => false
  | .tel _ => false

def ruleCore (r : TRule) : Bool := headCore r.head && r.body.all litCore
def progCore (P : TProg) : Bool := P.all ruleCore

def litPlain : BLit → Bool
  | .tel _ _ => false
  | .del _ _ => false
  | _ => true

/-- rules of the future fragment: normal rules (possibly with a future head) have no future atoms in the
    body; integrity constraints and `not` / `not not` heads may look ahead -/
def ruleFut (r : TRule) : Bool :=
  match r.head with
  | .atom _ _ => r.body.all litCore
  | .disj _ => r.body.all litCore
  | .choice _ => r.body.all litCore
  | .falsum => r.body.all litPlain
  | .nlit sg _ _ => (sg != .pos) && r.body.all litPlain
  | .tel _ => false

def progFut (P : TProg) : Bool := P.all ruleFut

theorem litCore_plain {l : BLit} (h : litCore l = true) : litPlain l = true := by
  cases l with
  | tel | del => exact h
  | _ => rfl

theorem all_litCore_plain {b : List BLit} (hc : b.all litCore = true) : b.all litPlain = true :=
  all_mono (fun _ _ => litCore_plain) hc

theorem ruleFut_plain {r : TRule} (h : ruleFut r = true) : r.body.all litPlain = true := by
  unfold ruleFut at h
  cases hd : r.head <;> rw [hd] at h
  case atom | disj | choice => exact all_litCore_plain h
  case falsum => exact h
  case nlit => exact ((Bool.and_eq_true _ _).mp h).2
  case tel => cases h

theorem ruleCore_fut {r : TRule} (hc : ruleCore r = true) : ruleFut r = true := by
  simp only [ruleCore, Bool.and_eq_true] at hc
  obtain ⟨hh, hb⟩ := hc
  unfold ruleFut
  cases hd : r.head with
  | atom _ _ | disj _ | choice _ => exact hb
  | falsum => exact all_litCore_plain hb
  | nlit _ _ _ | tel _ =>
    rw [hd] at hh
    cases hh

theorem progCore_fut {P : TProg} (hc : progCore P = true) : progFut P = true :=
  all_mono (fun _ _ => ruleCore_fut) hc

/-! ### interpretations from traces -/

def embed (h : Nat) (T : Trace) : Interp
  | .user a k => decide (0 ≤ k) && decide (k ≤ (h : Int)) && T k.toNat a
  | .initial k => k == 0
  | .final k => k == (h : Int)
  | .future _ _ _ => false

def traceOf (X : Interp) : Trace := fun k a => X (.user a (k : Int))

/-- final-part rules apply at the last position only -/
def finOK (r : TRule) (h j : Nat) : Bool := if r.part == .final then j == h else true

/-- is `__future_a(n, k)` derived by some rule at position `k - n` whose body holds in `(W, T)`? -/
def futDerived (P : TProg) (h : Nat) (W T : Trace) (a : String) (n : Nat) (k : Int) : Bool :=
  P.any fun r => match r.head with
    | .atom a' n' => (a' == a) && (n' == n) && decide (0 < n) && decide ((n : Int) ≤ k) && decide (k - n ≤ (h : Int)) &&
        rootOK r (k - n).toNat &&
        (r.body.all (BLit.holds h W T (k - n).toNat) && finOK r h (k - n).toNat)
    | _ => false

theorem futDerived_iff (P : TProg) (h : Nat) (W T : Trace) (a : String) (n : Nat) (k : Int) :
    futDerived P h W T a n k = true ↔
      ∃ r ∈ P, r.head = .atom a n ∧ 0 < n ∧ ∃ j : Nat, j ≤ h ∧ k = (j : Int) + n ∧ rootOK r j = true ∧
        (r.body.all (BLit.holds h W T j) && finOK r h j) = true := by
  -- the position `k - n` of the rule is a natural number `j ≤ h` exactly if `n ≤ k` and `k - n ≤ h`
  have hpos (Φ : Nat → Prop) : ((n : Int) ≤ k ∧ k - n ≤ (h : Int) ∧ Φ (k - n).toNat) ↔
      ∃ j : Nat, j ≤ h ∧ k = (j : Int) + n ∧ Φ j := by
    constructor
    · rintro ⟨hnk, hkh, hΦ⟩
      obtain ⟨j, hj⟩ := Int.eq_ofNat_of_zero_le (Int.sub_nonneg_of_le hnk)
      rw [hj] at hkh
      rw [hj, Int.toNat_natCast] at hΦ
      exact ⟨j, Int.ofNat_le.mp hkh, Int.sub_eq_iff_eq_add.mp hj, hΦ⟩
    · rintro ⟨j, hj, rfl, hΦ⟩
      rw [Int.add_sub_cancel, Int.toNat_natCast]
      exact ⟨Int.le_add_of_nonneg_left (Int.natCast_nonneg j), Int.ofNat_le.mpr hj, hΦ⟩
  simp only [futDerived, List.any_eq_true]
  refine exists_congr fun r => and_congr_right fun _ => ?_
  cases r.head with
  | atom a' n' =>
    simp only [Bool.and_eq_true, beq_iff_eq, decide_eq_true_eq, Head.atom.injEq, and_assoc]
    exact and_congr_right fun _ => and_congr_right fun _ => and_congr_right fun _ =>
      hpos fun j => rootOK r j = true ∧ r.body.all (BLit.holds h W T j) = true ∧ finOK r h j = true
  | _ => simp only [Bool.false_eq_true, reduceCtorEq, false_and]

/-- embedding of an HT pair of traces, including the auxiliary `__future_*` atoms -/
def embedF (P : TProg) (h : Nat) (W T : Trace) : Interp
  | .future a n k => futDerived P h W T a n k
  | x => embed h W x

theorem embed_user (h : Nat) (W : Trace) (a : String) (j : Int) : embed h W (.user a j) = atPos h W a j := by
  rw [atPos, Bool.if_false_right, Bool.decide_and]
  rfl

/-- `H` is the embedding of `W` on all atoms but the `__future_*` ones -/
structure Agrees (H : Interp) (h : Nat) (W : Trace) : Prop where
  user : ∀ a j, H (.user a j) = atPos h W a j
  initial : ∀ j, H (.initial j) = (j == 0)
  final : ∀ j, H (.final j) = (j == (h : Int))

theorem embed_agrees (h : Nat) (W : Trace) : Agrees (embed h W) h W := ⟨embed_user h W, fun _ => rfl, fun _ => rfl⟩

theorem embedF_user (P : TProg) (h : Nat) (W T : Trace) (a : String) (j : Int) :
    embedF P h W T (.user a j) = atPos h W a j := embed_user h W a j

theorem embedF_agrees (P : TProg) (h : Nat) (W T : Trace) : Agrees (embedF P h W T) h W :=
  ⟨embedF_user P h W T, fun _ => rfl, fun _ => rfl⟩

theorem agrees_of_shape {H : Interp} {h : Nat} (hu : ∀ a j, H (.user a j) = true → 0 ≤ j ∧ j ≤ (h : Int))
    (hi : ∀ j, H (.initial j) = true ↔ j = 0) (hf : ∀ j, H (.final j) = true ↔ j = (h : Int)) :
    Agrees H h (traceOf H) where
  user a j := by
    by_cases hj : 0 ≤ j ∧ j ≤ (h : Int)
    · rw [atPos_in hj, traceOf, Int.toNat_of_nonneg hj.1]
    · rw [atPos_out hj, Bool.eq_false_iff]
      exact fun hx => hj (hu a j hx)
  initial j := by rw [Bool.eq_iff_iff, hi, beq_iff_eq]
  final j := by rw [Bool.eq_iff_iff, hf, beq_iff_eq]

theorem stable_agrees {P : TProg} {h : Nat} {X : Interp} (hs : Stable (G P h) X) : Agrees X h (traceOf X) :=
  agrees_of_shape (stable_shape hs).1 (stable_shape hs).2.1 (stable_shape hs).2.2

theorem below_agrees {h : Nat} {T : Trace} {H X : Interp} (hX : Agrees X h T) (hle : H.le X)
    (hi : H (.initial 0) = true) (hf : H (.final (h : Int)) = true) : Agrees H h (traceOf H) :=
  agrees_of_shape (fun a j hx => atPos_true (hX.user a j ▸ hle _ hx))
    (fun j => ⟨fun hx => beq_iff_eq.mp (hX.initial j ▸ hle _ hx), fun hj => hj ▸ hi⟩)
    (fun j => ⟨fun hx => beq_iff_eq.mp (hX.final j ▸ hle _ hx), fun hj => hj ▸ hf⟩)

theorem agrees_congr {H : Interp} {h : Nat} {W T : Trace} (hH : Agrees H h W) (heq : TraceEq h W T) : Agrees H h T where
  user a j := by
    rw [hH.user]
    exact atPos_congr Iff.rfl fun _ hj => heq j.toNat (Int.toNat_le.mpr hj) a
  initial := hH.initial
  final := hH.final

/-! ### values of evaluated literals -/

theorem signLit_val (H X : Interp) (sg : Sign) (kn : Bool) (a : GAtom) :
    litVal H X (signLit sg kn a) = if kn then sg.app (H a) (X a) else sg.app false false := by
  cases sg <;> cases kn <;> rfl

theorem signConst_val (H X : Interp) (sg : Sign) (b : Bool) : litVal H X (signConst sg b) = sg.app b b := by
  cases sg <;> cases b <;> rfl

theorem atPos_unknown {h s : Nat} {j : Int} (hkn : known s j = false) (hwin : s = h ∨ j ≤ (s : Int))
    (W : Trace) (a : String) : atPos h W a j = false := by
  refine atPos_out (fun hj => ?_) W a
  simp only [known, Bool.and_eq_false_iff, decide_eq_false_iff_not] at hkn
  omega

/-- value of the flipped head literal of a `not` / `not not` head -/
def nlitVal (h : Nat) (W T : Trace) (t : Nat) : Head → Bool
  | .nlit sg a n => !(sg.app (atPos h W a (t + n)) (atPos h T a (t + n)))
  | _ => true

/-- all look-aheads of the rule are at most `m` -/
def ShiftsLe (r : TRule) (m : Nat) : Prop :=
  (∀ sg a sh, BLit.atom sg a sh ∈ r.body → sh ≤ (m : Int)) ∧ ∀ sg a n, r.head = .nlit sg a n → n ≤ m

/-- value of the head of the instance for position `t`: a future head is represented by its auxiliary atom -/
def headVal (H : Interp) (h : Nat) (W T : Trace) (t : Nat) : Head → Bool
  | .atom a (n+1) => H (.future a (n+1) ((t : Int) + (n+1 : Nat)))
  | hd => hd.holds h W T t

theorem headVal_cases (H : Interp) (h : Nat) (W T : Trace) (t : Nat) (hd : Head) :
    (∃ a n, hd = .atom a (n+1) ∧ headVal H h W T t hd = H (.future a (n+1) ((t : Int) + (n+1 : Nat)))) ∨
      headVal H h W T t hd = hd.holds h W T t := by
  cases hd with
  | atom a n => cases n with
    | zero => exact .inr rfl
    | succ n => exact .inl ⟨a, n, rfl, rfl⟩
  | _ => exact .inr rfl

section
variable {h : Nat} {W T : Trace} {H X : Interp} (hH : Agrees H h W) (hX : Agrees X h T)
include hH hX

theorem userLit_val {s : Nat} (sg : Sign) (a : String) (j : Int) (hwin : s = h ∨ j ≤ (s : Int)) :
    litVal H X (signLit sg (known s j) (.user a j)) = sg.app (atPos h W a j) (atPos h T a j) := by
  rw [signLit_val, hH.user, hX.user]
  cases hkn : known s j
  · rw [atPos_unknown hkn hwin, atPos_unknown hkn hwin]
    rfl
  · rfl

theorem litAt_val {s t : Nat} (l : BLit) (hl : litPlain l = true)
    (hwin : s = h ∨ ∀ sg a sh, l = .atom sg a sh → (t : Int) + sh ≤ s) :
    litVal H X (litAt s (t : Int) l) = l.holds h W T t := by
  cases l with
  | atom sg a sh => exact userLit_val hH hX sg a _ (hwin.imp_right fun hw => hw sg a sh rfl)
  | init sg a =>
    simp only [litAt, BLit.holds, signLit_val, if_true, hH.user, hX.user, atPos_zero]
  | kw sg w =>
    cases w <;> simp only [litAt, BLit.holds, Kw.holds, signConst_val, signLit_val, if_true, hH.initial, hH.final,
      hX.initial, hX.final, int_beq_nat, int_beq_zero]
  | tel | del => cases hl

/-- `hwin`: an instance that is alive (final-part rule at the last position only, guard current) was made at the horizon
    or does not look beyond its step -/
theorem instLits_val {s t : Nat} (hts : t ≤ s) (guard : Option Int) {r : TRule} (hr : ruleFut r = true)
    (hwin : finOK r h t = true → guard.all (· == (h : Int)) = true → s = h ∨ ShiftsLe r (s - t)) :
    (instLits s (t : Int) guard r).all (litVal H X) =
      (r.body.all (BLit.holds h W T t) && finOK r h t && guard.all (· == (h : Int)) && nlitVal h W T t r.head) := by
  have hshift (x : Int) (hx : x ≤ ((s - t : Nat) : Int)) : (t : Int) + x ≤ s :=
    Int.add_le_of_le_sub_left (Int.ofNat_sub hts ▸ hx)
  have hfin : (if r.part == .final then [LitRes.pos (.final (t : Int))] else []).all (litVal H X) = finOK r h t := by
    unfold finOK
    split <;> simp [litVal, hH.final, int_beq_nat]
  have hgd : (guardLits guard).all (litVal H X) = guard.all (· == (h : Int)) := by
    cases guard <;> simp [guardLits, litVal, hH.final]
  simp only [instLits, List.all_append, hfin, hgd]
  -- a final-part rule off the last position, or a stale guard: both sides are false
  cases hf : finOK r h t
  · simp only [Bool.and_false, Bool.false_and]
  cases hg : guard.all (· == (h : Int))
  · simp only [Bool.and_false, Bool.false_and]
  have hwin' := hwin hf hg
  have hbody : (r.body.map (litAt s (t : Int))).all (litVal H X) = r.body.all (BLit.holds h W T t) := by
    rw [List.all_map]
    refine all_congr_mem fun l hl => litAt_val hH hX l (List.all_eq_true.mp (ruleFut_plain hr) l hl) ?_
    exact hwin'.imp_right fun hw sg a sh he => hshift _ (hw.1 sg a sh (he ▸ hl))
  have hhead : (headLits s (t : Int) r.head).all (litVal H X) = nlitVal h W T t r.head := by
    cases hh : r.head with
    | nlit sg a n =>
      have hsg : (flipSign sg).app = fun w x => !(sg.app w x) := by
        cases sg with
        | pos => simp [ruleFut, hh] at hr
        | _ =>
          funext w x
          simp [flipSign, Sign.app]
      simp only [headLits, List.all_cons, List.all_nil, Bool.and_true, nlitVal]
      rw [userLit_val hH hX, hsg]
      exact hwin'.imp_right fun hw => hshift _ (Int.ofNat_le.mpr (hw.2 sg a n hh))
    | _ => rfl
  rw [hbody, hhead]

/-- what `mkRule` makes of the head atoms of an instance, against `headVal`; a `not` / `not not` head has no head atoms
    and its value is that of the flipped literal in the body -/
theorem instHead_val {t : Nat} (ht : t ≤ h) (hd : Head) (hnt : ∀ f, hd ≠ .tel f) :
    ((if isChoice hd then (instHead (t : Int) hd).all (fun a => H a || !(X a)) else (instHead (t : Int) hd).any H) ||
        !(nlitVal h W T t hd)) = headVal H h W T t hd := by
  -- per head form both sides unfold to the same expression once `H`, `X` at user atoms are read as positions of `W`, `T`
  cases hd with
  | tel f => exact absurd rfl (hnt f)
  | atom a n => cases n <;> simp [instHead, isChoice, headVal, nlitVal, Head.holds, hH.user]
  | disj as => simp [instHead, isChoice, headVal, nlitVal, Head.holds, Function.comp_def, hH.user, atPos_nat ht]
  | choice as => simp [instHead, isChoice, headVal, nlitVal, Head.holds, Function.comp_def, hH.user, hX.user, atPos_nat ht]
  | falsum => rfl
  | nlit sg a n => simp [instHead, isChoice, headVal, nlitVal, Head.holds]

theorem instSat_val {s t : Nat} (hts : t ≤ s) (ht : t ≤ h) (guard : Option Int) {r : TRule} (hr : ruleFut r = true)
    (hwin : finOK r h t = true → guard.all (· == (h : Int)) = true → s = h ∨ ShiftsLe r (s - t)) :
    (instAt s (t : Int) guard r).all (·.sat H X) =
      (!(r.body.all (BLit.holds h W T t) && finOK r h t && guard.all (· == (h : Int))) || headVal H h W T t r.head) := by
  have hnt : ∀ f, r.head ≠ .tel f := fun f hf => by simp [ruleFut, hf] at hr
  -- the flipped head literal, a conjunct of the instance's body, is read as a disjunct of the head
  rw [instAt_eq_mkRule hnt, mkRule_sat, instLits_val hH hX hts guard hr hwin,
    ← instHead_val hH hX ht r.head hnt, Bool.not_and, Bool.or_assoc, Bool.or_comm (!(nlitVal ..))]

end

/-! ### which instances are alive at horizon `h` -/

theorem maxShift_le_iff (r : TRule) (m : Nat) : maxShift r ≤ m ↔ ShiftsLe r m := by
  unfold maxShift ShiftsLe
  rw [foldl_max_le_iff, and_comm, List.forall_mem_map]
  refine and_congr ⟨fun hb sg a sh hl => Int.toNat_le.mp (hb _ hl), fun hb l hl => ?_⟩ ?_
  · cases l with
    | atom sg a sh => exact Int.toNat_le.mpr (hb sg a sh hl)
    | _ => exact Nat.zero_le m
  · cases r.head <;> simp

theorem shiftsLe_of_litCore {r : TRule} (hb : r.body.all litCore = true) (hh : ∀ sg a n, r.head ≠ .nlit sg a n) {m : Nat} :
    ShiftsLe r m := by
  refine ⟨fun sg a sh hl => ?_, fun sg a n he => absurd he (hh sg a n)⟩
  have := List.all_eq_true.mp hb _ hl
  simp only [litCore, decide_eq_true_eq] at this
  exact Int.le_trans this (Int.natCast_nonneg m)

/-- outside the final part, a rule of the fragment does not look beyond its look-ahead depth: a constraint by
    definition of the depth, a normal rule because its body does not look ahead at all -/
theorem shiftsLe_lookahead {r : TRule} (hr : ruleFut r = true) (hp : r.part ≠ .final) : ShiftsLe r (lookahead r) := by
  unfold lookahead
  split
  · exact (maxShift_le_iff r _).mp (Nat.le_refl _)
  · rename_i hc
    have hnc : isConstraintHead r.head = false := by
      rwa [bne_iff_ne.mpr hp, Bool.and_true, Bool.not_eq_true] at hc
    unfold ruleFut at hr
    cases hh : r.head <;> rw [hh] at hr hnc
    case atom | disj | choice => exact shiftsLe_of_litCore hr fun _ _ _ he => nomatch hh.symm.trans he
    case falsum | nlit => cases hnc
    case tel => cases hr

/-- the instance for position `t` made at step `s` is alive at horizon `h` iff it is the permanent copy or was
    made at the horizon itself -/
theorem guardAt_val {r : TRule} {s t h : Nat} (hst : s ≤ t + lookahead r) :
    (guardAt r s t).all (· == (h : Int)) = (s == h || s == t + lookahead r) := by
  unfold guardAt
  by_cases hlt : s < t + lookahead r
  · rw [if_pos hlt, Option.all_some, int_beq_nat, beq_false_of_ne (Nat.ne_of_lt hlt), Bool.or_false]
  · rw [if_neg hlt, Option.all_none, Nat.le_antisymm hst (Nat.le_of_not_lt hlt), beq_self_eq_true, Bool.or_true]

/-- an instance `ground` makes that is alive at horizon `h` was made at the horizon or does not look beyond its step:
    the permanent copy is made at step `t + lookahead r` -/
theorem groundAt_window {r : TRule} (hr : ruleFut r = true) {s t h : Nat} (hst : s ≤ t + lookahead r)
    (hf : finOK r h t = true) (hg : (guardAt r s t).all (· == (h : Int)) = true) : s = h ∨ ShiftsLe r (s - t) := by
  rw [guardAt_val hst, Bool.or_eq_true, beq_iff_eq, beq_iff_eq] at hg
  rcases hg with hsh | hperm
  · exact Or.inl hsh
  by_cases hp : r.part = .final
  · -- a final-part rule has no look-ahead and is alive at `t = h` only
    have hl0 : lookahead r = 0 := by simp [lookahead, hp]
    have hth : t = h := by simpa [finOK, hp] using hf
    exact Or.inl (by rw [hperm, hl0, hth, Nat.add_zero])
  · rw [hperm, Nat.add_sub_cancel_left]
    exact Or.inr (shiftsLe_lookahead hr hp)

/-! ### satisfaction of `G P h` -/

theorem applies_eq (r : TRule) (h k : Nat) : r.part.applies h k = (rootOK r k && finOK r h k) := by
  unfold rootOK finOK
  cases r.part with
  | initial | dynamic => exact (Bool.and_true _).symm
  | always | final => rfl

/-- `sat_iff_satAt` with the part condition split into the root of the part and the final part -/
theorem sat_iff_pos (h : Nat) (W T : Trace) (r : TRule) :
    r.sat h W T = true ↔ ∀ k, k ≤ h → rootOK r k = true →
      (!(r.body.all (BLit.holds h W T k) && finOK r h k) || r.head.holds h W T k) = true := by
  refine (sat_iff_satAt h W T r).trans (forall_congr' fun k => forall_congr' fun _ => ?_)
  rw [satAt, applies_eq]
  cases rootOK r k
  · exact iff_of_true rfl nofun
  · rw [Bool.true_and, ← Bool.not_and, Bool.and_comm]
    exact ⟨fun hs _ => hs, fun hs => hs rfl⟩

/-- what it means to satisfy `G P h` for an HT interpretation that is `(W, T)` on the user atoms: `P` position by
    position with the future heads read as their auxiliary atoms, the bridge rules, the assumptions -/
theorem G_sat_iff {P : TProg} (hP : progFut P = true) {h : Nat} {W T : Trace} {H X : Interp}
    (hH : Agrees H h W) (hX : Agrees X h T) :
    (∀ r' ∈ G P h, r'.sat H X = true) ↔
      (∀ r ∈ P, ∀ k, k ≤ h → rootOK r k = true →
        (!(r.body.all (BLit.holds h W T k) && finOK r h k) || headVal H h W T k r.head) = true) ∧
      (∀ a n, (a, n) ∈ futureHeads P → ∀ k : Nat, k ≤ h → H (.future a n k) = true → W k a = true) ∧
      (∀ a n k, (∃ r' ∈ accRules P h, GAtom.future a n k ∈ r'.head) → (h : Int) < k → H (.future a n k) = false) := by
  have hrf : ∀ r ∈ P, ruleFut r = true := List.all_eq_true.mp hP
  -- an instance that `ground` makes reads as its rule at its position if it is alive, and is satisfied otherwise
  have inst : ∀ r ∈ P, ∀ s t : Nat, t ≤ s → s ≤ t + lookahead r → s ≤ h →
      (instAt s t (guardAt r s t) r).all (·.sat H X) = (!(s == h || s == t + lookahead r) ||
        !(r.body.all (BLit.holds h W T t) && finOK r h t) || headVal H h W T t r.head) := by
    intro r hr s t hts hst hs
    rw [instSat_val hH hX hts (Nat.le_trans hts hs) _ (hrf r hr) (groundAt_window (hrf r hr) hst), guardAt_val hst,
      Bool.not_and, Bool.or_comm (!(_ && _))]
  constructor
  · intro hG
    refine ⟨fun r hr k hk hok => ?_, fun a n hf k hk hfut => ?_, fun a n k hex hk => ?_⟩
    · -- the copy made at step `min (k + lookahead r) h` is alive
      have hs : min (k + lookahead r) h ≤ h := Nat.min_le_right _ _
      have hts : k ≤ min (k + lookahead r) h := Nat.le_min.mpr ⟨Nat.le_add_right _ _, hk⟩
      have halive : (min (k + lookahead r) h == h || min (k + lookahead r) h == k + lookahead r) = true := by
        rw [Nat.min_def, Bool.or_eq_true, beq_iff_eq, beq_iff_eq]
        split
        · exact .inr rfl
        · exact .inl rfl
      have hi := inst r hr _ k hts (Nat.min_le_left _ _) hs
      rw [halive, Bool.not_true, Bool.false_or] at hi
      rw [← hi]
      cases hinst : instAt _ (k : Int) _ r with
      | none => rfl
      | some r' =>
        exact hG r' (G_of_groundAt hs (inst_mem_groundAt hr hts (Nat.min_le_left _ _) hok hinst))
    · have := hG _ (bridge_mem_G hf hk)
      rwa [sat_bridge, hfut, Bool.not_true, Bool.false_or, hH.user, atPos_nat hk] at this
    · have := hG _ (assumption_mem_G hex hk)
      rwa [sat_assumption, Bool.not_eq_true'] at this
  · rintro ⟨hpos, hbridge, hass⟩ r' hr'
    rcases (mem_G P h r').mp hr' with ⟨s, hs, hg⟩ | rfl | ⟨a, n, k, hex, hk, rfl⟩
    · rcases (mem_groundAt P s r').mp hg with ⟨r, hr, t, hts, hst, hok, hinst⟩ | ⟨a, n, hf, rfl⟩ | ⟨rfl, rfl⟩
      · have := inst r hr s t hts hst hs
        rw [hinst, Bool.or_assoc, hpos r hr t (Nat.le_trans hts hs) hok, Bool.or_true] at this
        exact this
      · rw [sat_bridge, hH.user, atPos_nat hs]
        cases hfut : H (.future a n s)
        · rfl
        · exact hbridge a n hf s hs hfut
      · rw [sat_fact, hH.initial]
        rfl
    · rw [sat_fact, hH.final]
      exact beq_self_eq_true _
    · rw [sat_assumption, hass a n k hex hk]
      rfl

section
variable {P : TProg} (hP : progFut P = true) {h : Nat} {W T : Trace}
include hP

theorem future_head_acc {H X : Interp} (hH : Agrees H h W) (hX : Agrees X h T) {r : TRule} (hr : r ∈ P)
    {a : String} {n : Nat} (hh : r.head = .atom a (n+1)) {k : Nat} (hk : k ≤ h) (hok : rootOK r k = true)
    (hb : (r.body.all (BLit.holds h W T k) && finOK r h k) = true) :
    ∃ r' ∈ accRules P h, GAtom.future a (n+1) ((k : Int) + (n+1 : Nat)) ∈ r'.head := by
  have hl0 : lookahead r = 0 := by simp [lookahead, hh, isConstraintHead]
  have hrf := List.all_eq_true.mp hP r hr
  have hlits := instLits_val hH hX (Nat.le_refl k) (guardAt r k k) hrf (groundAt_window hrf (Nat.le_add_right k _))
  rw [hb, guardAt_val (Nat.le_add_right k _), hl0, hh] at hlits
  obtain ⟨r', hi, hhead⟩ := instAt_of_lits (fun f hf => nomatch hh.symm.trans hf) (by simpa [nlitVal] using hlits)
  exact ⟨r', (mem_accRules P h r').mpr ⟨k, hk, inst_mem_groundAt hr (Nat.le_refl k) (Nat.le_add_right k _) hok hi⟩,
    hhead ▸ future_mem_instHead.mpr ⟨hh, Nat.succ_ne_zero n, rfl⟩⟩

theorem sat_of_G {H X : Interp} (hH : Agrees H h W) (hX : Agrees X h T)
    (hG : ∀ r' ∈ G P h, r'.sat H X = true) : ∀ r ∈ P, r.sat h W T = true := by
  obtain ⟨hpos, hbridge, hass⟩ := (G_sat_iff hP hH hX).mp hG
  intro r hr
  rw [sat_iff_pos]
  intro k hk hok
  have := hpos r hr k hk hok
  rcases headVal_cases H h W T k r.head with ⟨a, n, hh, hv⟩ | hv
  · cases hb : r.body.all (BLit.holds h W T k) && finOK r h k
    · rfl
    have hfut : H (.future a (n+1) ((k : Int) + (n+1 : Nat))) = true := by rwa [hb, hv] at this
    have hf : (a, n+1) ∈ futureHeads P := (futureHeads_iff P a (n+1)).mpr ⟨r, hr, hh, Nat.succ_pos n⟩
    by_cases hkn : k + (n+1) ≤ h
    · have := hbridge a (n+1) hf (k + (n+1)) hkn (Int.natCast_add k (n+1) ▸ hfut)
      simp only [hh, Bool.not_true, Bool.false_or, Head.holds, ← Int.natCast_add, atPos_nat hkn, this]
    · -- beyond the horizon the assumption forbids the auxiliary atom
      have hbeyond : (h : Int) < (k : Int) + (n+1 : Nat) := Int.natCast_add k (n+1) ▸ Int.ofNat_lt.mpr (Nat.lt_of_not_le hkn)
      rw [hass a (n+1) _ (future_head_acc hP hH hX hr hh hk hok hb) hbeyond] at hfut
      cases hfut
  · rwa [hv] at this

omit hP in
theorem futDerived_target (hS : ∀ r ∈ P, r.sat h W T = true) {a : String} {n : Nat} {k : Int}
    (hd : futDerived P h W T a n k = true) : atPos h W a k = true := by
  obtain ⟨r, hr, hh, -, j, hj, rfl, hok, hb⟩ := (futDerived_iff P h W T a n k).mp hd
  simpa [hb, hh, Head.holds] using (sat_iff_pos h W T r).mp (hS r hr) j hj hok

theorem G_of_sat {X : Interp} (hX : Agrees X h T) (hS : ∀ r ∈ P, r.sat h W T = true) :
    ∀ r' ∈ G P h, r'.sat (embedF P h W T) X = true := by
  refine (G_sat_iff hP (embedF_agrees P h W T) hX).mpr ⟨fun r hr k hk hok => ?_, fun a n _ k hk hfut => ?_,
    fun a n k _ hk => ?_⟩
  · have := (sat_iff_pos h W T r).mp (hS r hr) k hk hok
    rcases headVal_cases (embedF P h W T) h W T k r.head with ⟨a, n, hh, hv⟩ | hv
    · rw [hv]
      cases hb : r.body.all (BLit.holds h W T k) && finOK r h k
      · rfl
      · exact (futDerived_iff P h W T a (n+1) _).mpr ⟨r, hr, hh, Nat.succ_pos n, k, hk, rfl, hok, hb⟩
    · rwa [hv]
  · exact atPos_nat hk W a ▸ futDerived_target hS hfut
  · rw [Bool.eq_false_iff]
    intro hfut
    exact Int.not_le.mpr hk (atPos_true (futDerived_target hS hfut)).2

end

/-! ### monotonicity in the here-world -/

theorem embedF_le (P : TProg) {h : Nat} {W T : Trace} (hle : TraceLe h W T) : (embedF P h W T).le (embedF P h T T) := by
  intro a ha
  cases a with
  | future x n k =>
    obtain ⟨r, hr, hh, hn, j, hj, hjs, hok, hb⟩ := (futDerived_iff P h W T x n k).mp ha
    rw [Bool.and_eq_true] at hb
    refine (futDerived_iff P h T T x n k).mpr ⟨r, hr, hh, hn, j, hj, hjs, hok, ?_⟩
    rw [Bool.and_eq_true]
    exact ⟨body_holds_mono hle j hb.1, hb.2⟩
  | user x k => exact embedF_user P h T T x k ▸ atPos_mono hle x k (embedF_user P h W T x k ▸ ha)
  | _ => exact ha

/-! ### the auxiliary atoms of a model of `G P h` -/

section
variable {P : TProg} (hP : progFut P = true) {h : Nat}
include hP

theorem future_derived_in {W T : Trace} {H X : Interp} (hH : Agrees H h W) (hX : Agrees X h T)
    (hG : ∀ r' ∈ G P h, r'.sat H X = true) {a : String} {n : Nat} {k : Int}
    (hd : futDerived P h W T a n k = true) : H (.future a n k) = true := by
  obtain ⟨r, hr, hh, hn, j, hj, rfl, hok, hb⟩ := (futDerived_iff P h W T a n k).mp hd
  have := ((G_sat_iff hP hH hX).mp hG).1 r hr j hj hok
  obtain ⟨m, rfl⟩ := Nat.exists_eq_add_one_of_ne_zero (Nat.ne_of_gt hn)
  simpa [hb, hh, headVal] using this

theorem future_supported {X : Interp} (hs : Stable (G P h) X) {a : String} {n : Nat} {k : Int}
    (hx : X (.future a n k) = true) : futDerived P h (traceOf X) (traceOf X) a n k = true := by
  have hXa := stable_agrees hs
  obtain ⟨r', hr', hmem, hbody⟩ := stable_supported_body hs hx
  -- `r'` is an instance of a rule with head `a` shifted by `n`
  rcases (mem_G P h r').mp hr' with ⟨s, hsh, hg⟩ | rfl | ⟨_, _, _, _, _, rfl⟩
  · rcases (mem_groundAt P s r').mp hg with ⟨r, hr, t, hts, hst, hok, hinst⟩ | ⟨_, _, _, rfl⟩ | ⟨_, rfl⟩
    · have hrf := List.all_eq_true.mp hP r hr
      obtain ⟨hhead, -, hlits⟩ := mkRule_some (mkRule_of_instAt hinst)
      rw [hhead] at hmem
      rw [hlits X X, instLits_val hXa hXa hts _ hrf (groundAt_window hrf hst)] at hbody
      simp only [Bool.and_eq_true] at hbody
      obtain ⟨hh, hn, rfl⟩ := future_mem_instHead.mp hmem
      exact (futDerived_iff P h _ _ a n _).mpr ⟨r, hr, hh, Nat.pos_of_ne_zero hn, t, Nat.le_trans hts hsh, rfl, hok,
        Bool.and_eq_true _ _ ▸ hbody.1.1⟩
    · cases List.mem_singleton.mp hmem
    · cases List.mem_singleton.mp hmem
  · cases List.mem_singleton.mp hmem
  · cases hmem

end

theorem eq_embedF {P : TProg} {h : Nat} {W T : Trace} {H : Interp} (hH : Agrees H h W)
    (hf : ∀ a n k, H (.future a n k) = futDerived P h W T a n k) : H = embedF P h W T := by
  funext x
  cases x with
  | future a n k => exact hf a n k
  | user a k => exact (hH.user a k).trans (embedF_user P h W T a k).symm
  | initial k => exact hH.initial k
  | final k => exact hH.final k

section
variable (P : TProg) (hP : progFut P = true) (h : Nat)
include hP

/-- **C02, main theorem** (rule fragment with future heads and look-ahead constraints): at every horizon `h`
    the stable models of the accumulated ground program are exactly the embeddings of the temporal stable
    models of `P` over traces of length `h+1`. -/
theorem full_stable_iff :
    (∀ X, Stable (G P h) X → TSM h P (traceOf X) ∧ X = embedF P h (traceOf X) (traceOf X)) ∧
    (∀ T, TSM h P T → Stable (G P h) (embedF P h T T)) := by
  constructor
  · intro X hs
    have hXa := stable_agrees hs
    have hXeq : X = embedF P h (traceOf X) (traceOf X) := eq_embedF hXa fun a n k =>
      Bool.eq_iff_iff.mpr ⟨future_supported hP hs, future_derived_in hP hXa hXa hs.1⟩
    refine ⟨⟨sat_of_G hP hXa hXa hs.1, fun W hle hW k hk a => ?_⟩, hXeq⟩
    -- the model `(W, traceOf X)` of `P` embeds as a model of `G P h` below `X`, hence equal to `X`, which is stable
    have hleI : (embedF P h W (traceOf X)).le X := fun a ha => hXeq ▸ embedF_le P hle a ha
    have := hs.2 _ hleI (G_of_sat hP hXa hW) (.user a (k : Int))
    rwa [hXa.user, atPos_nat hk, embedF_user, atPos_nat hk] at this
  · intro T hT
    have hXa := embedF_agrees P h T T
    refine ⟨G_of_sat hP hXa hT.1, fun H hle hsat => ?_⟩
    have hHa := below_agrees hXa hle (sat_fact H _ _ ▸ hsat _ (initial_fact_mem P h))
      (sat_fact H _ _ ▸ hsat _ (final_fact_mem P h))
    have hWle : TraceLe h (traceOf H) T := fun k hk x hx => by
      have := hle (.user x (k : Int)) hx
      rwa [hXa.user, atPos_nat hk] at this
    -- the trace of `H` is `T` by minimality of `T`, so `H` agrees with `T` as well
    have hHT : Agrees H h T := agrees_congr hHa (hT.2 (traceOf H) hWle (sat_of_G hP hHa hXa hsat))
    exact congrFun (eq_embedF hHT fun a n k => Bool.eq_iff_iff.mpr ⟨hle _, future_derived_in hP hHT hXa hsat⟩)

end

theorem full_traces (P : TProg) (hf : progFut P = true) (h : Nat) (T : Trace) :
    (∃ X, Stable (G P h) X ∧ TraceEq h (traceOf X) T) ↔ (∃ T', TSM h P T' ∧ TraceEq h T' T) :=
  ⟨fun ⟨X, hs, heq⟩ => ⟨traceOf X, ((full_stable_iff P hf h).1 X hs).1, heq⟩,
   fun ⟨T', hT, heq⟩ => ⟨embedF P h T' T', (full_stable_iff P hf h).2 T' hT, fun k hk a => by
     rw [traceOf, embedF_user, atPos_nat hk]
     exact heq k hk a⟩⟩

/-! ### the core fragment (C01) -/

theorem embedF_core {P : TProg} (hc : progCore P = true) (h : Nat) (W T : Trace) : embedF P h W T = embed h W := by
  funext a
  cases a with
  | future a n k =>
    refine Bool.eq_false_iff.mpr fun hd => ?_
    obtain ⟨r, hr, hh, hn, -⟩ := (futDerived_iff P h W T a n k).mp hd
    have := List.all_eq_true.mp hc r hr
    simp only [ruleCore, hh, headCore, Bool.and_eq_true, beq_iff_eq] at this
    exact Nat.ne_of_gt hn this.1
  | _ => rfl

theorem core_lookahead {r : TRule} (hc : ruleCore r = true) : lookahead r = 0 := by
  obtain ⟨hh, hb⟩ := Bool.and_eq_true_iff.mp hc
  have hm : maxShift r ≤ 0 := (maxShift_le_iff r 0).mpr (shiftsLe_of_litCore hb fun sg a n he => by
    rw [he] at hh
    cases hh)
  unfold lookahead
  split
  · exact Nat.le_zero.mp hm
  · rfl

theorem core_lookKeys {P : TProg} (hc : progCore P = true) : lookKeys P = [] :=
  List.eq_nil_iff_forall_not_mem.mpr fun ⟨root, n⟩ hm => by
    obtain ⟨r, hr, hpos, -⟩ := (lookKeys_mem P root n).mp hm
    rw [core_lookahead (List.all_eq_true.mp hc r hr)] at hpos
    exact Nat.lt_irrefl 0 hpos

theorem core_spartsOf {P : TProg} (hc : progCore P = true) :
    spartsOf P = [⟨.always, .std⟩, ⟨.dynamic, .std⟩, ⟨.initial, .std⟩] := by
  rw [spartsOf, core_lookKeys hc]
  rfl

theorem embed_le {h : Nat} {W T : Trace} (hle : TraceLe h W T) : (embed h W).le (embed h T) := by
  have := embedF_le [] hle
  rwa [embedF_core rfl, embedF_core rfl] at this

theorem embed_congr {h : Nat} {W T : Trace} (heq : TraceEq h W T) : embed h W = embed h T :=
  (eq_embedF (P := []) (agrees_congr (embed_agrees h W) heq) fun _ _ _ => rfl).trans (embedF_core rfl h T T)

theorem core_stable_iff (P : TProg) (hc : progCore P = true) (h : Nat) :
    (∀ X, Stable (G P h) X → TSM h P (traceOf X) ∧ X = embed h (traceOf X)) ∧
    (∀ T, TSM h P T → Stable (G P h) (embed h T)) := by
  have := full_stable_iff P (progCore_fut hc) h
  simp only [embedF_core hc] at this
  exact this

end TelProofs
