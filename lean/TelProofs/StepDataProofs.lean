/-
The bookkeeping of `BodyFormula.translate` / `add_atom` / `StepData.add_literal` (model: TelModel/StepData.lean): whatever the
order in which occurrences of a theory atom are registered and the formula is translated,
  * a literal the formula has is never replaced (`literal_stable`),
  * after a `translate` the formula has a literal, every registered occurrence literal is that literal or has been made
    equivalent to it (`make_equal`), and every constraint written is one of the two clauses of such an equivalence
    (`Inv`, `occurrences_equated`; in terms of answer sets `occurrences_follow`),
  * a formula without literal takes the smallest registered one, whatever the order or multiplicity of the registrations
    (`representative_regs`, `representative_order_independent`).
-/
import TelModel.StepData
import TelProofs.ClauseProofs

namespace TelProofs.SD
open TelModel

/-- the atoms registered by a sequence of operations -/
def added : List SDOp → List Int
  | [] => []
  | .addAtom a :: ops => a :: added ops
  | .translate _ :: ops => added ops

theorem mem_added {a : Int} : ∀ {ops : List SDOp}, a ∈ added ops ↔ SDOp.addAtom a ∈ ops
  | [] => by simp [added]
  | .addAtom _ :: ops | .translate _ :: ops => by simp [added, mem_added (ops := ops)]

theorem added_append (ops1 ops2 : List SDOp) : added (ops1 ++ ops2) = added ops1 ++ added ops2 := by
  induction ops1 with
  | nil => rfl
  | cons op ops ih => cases op <;> simp [added, ih]

theorem addAtom_of_mem {d : StepData} {a : Int} (h : a ∈ d.literals) : d.addAtom a = d :=
  if_pos (List.contains_iff_mem.mpr h)

theorem addAtom_of_not_mem {d : StepData} {a : Int} (h : a ∉ d.literals) :
    d.addAtom a = { d with literals := a :: d.literals, todo := d.todo ++ [a] } :=
  if_neg (mt List.contains_iff_mem.mp h)

theorem addAtom_literal (d : StepData) (a : Int) : (d.addAtom a).literal = d.literal := by
  unfold StepData.addAtom
  split <;> rfl

/-- what the proofs below use of `translate` (`o`: what `add_literal` writes) -/
theorem translate_spec (d : StepData) (src : LitSource) : ∃ l lits o,
    d.translate src = ({ literal := some l, literals := lits, todo := [] },
      o ++ d.todo.flatMap fun a => (makeEqual a l).map SDOut.clause) ∧
    (∀ l', d.literal = some l' → l' = l) ∧ (∀ a ∈ lits, a ∈ d.literals) ∧ ∀ c, SDOut.clause c ∉ o := by
  obtain ⟨lit, lits, todo⟩ := d
  cases lit with
  | some l => exact ⟨l, lits, [], rfl, fun _ h => (Option.some.inj h).symm, fun _ h => h, fun _ => List.not_mem_nil⟩
  | none =>
    have hl {l : Int} : ∀ l', (none : Option Int) = some l' → l' = l := nofun
    cases src with
    | assign l => exact ⟨l, lits, [], rfl, hl, fun _ h => h, fun _ => List.not_mem_nil⟩
    | own fresh =>
      cases hm : listMin lits with
      | some m =>
        refine ⟨m, lits.filter (· != m), [], ?_, hl, fun _ h => (List.mem_filter.mp h).1, fun _ => List.not_mem_nil⟩
        simp only [StepData.translate, StepData.addLiteral, hm, List.nil_append]
      | none =>
        refine ⟨fresh, lits, [.choice fresh], ?_, hl, fun _ h => h, by simp⟩
        simp only [StepData.translate, StepData.addLiteral, hm, List.cons_append, List.nil_append]

theorem run_append : ∀ (ops1 ops2 : List SDOp) (d : StepData),
    d.run (ops1 ++ ops2) = ((StepData.run (d.run ops1).1 ops2).1, (d.run ops1).2 ++ (StepData.run (d.run ops1).1 ops2).2)
  | [], _, _ => by simp only [List.nil_append, StepData.run]
  | op :: ops, ops2, d => by simp only [List.cons_append, StepData.run, run_append ops ops2, List.append_assoc]

/-- what holds of the state `d` and the output `out` once exactly the occurrence literals `A` have been registered -/
structure Inv (d : StepData) (out : List SDOut) (A : List Int) : Prop where
  todo_sub : ∀ a ∈ d.todo, a ∈ A
  lits_sub : ∀ a ∈ d.literals, a ∈ A
  covered : ∀ a ∈ A, a ∈ d.todo ∨ ∃ l, d.literal = some l ∧ (a = l ∨ ∀ c ∈ makeEqual a l, SDOut.clause c ∈ out)
  only : ∀ c, SDOut.clause c ∈ out → ∃ l a, d.literal = some l ∧ a ∈ A ∧ c ∈ makeEqual a l
  pending : d.literal = none → ∀ a ∈ A, a ∈ d.literals

theorem inv_init : Inv {} [] [] where
  todo_sub := List.forall_mem_nil _
  lits_sub := List.forall_mem_nil _
  covered := List.forall_mem_nil _
  only _ h := absurd h List.not_mem_nil
  pending _ := List.forall_mem_nil _

theorem Inv.congr {d out A B} (h : Inv d out A) (hm : ∀ x, x ∈ B ↔ x ∈ A) : Inv d out B where
  todo_sub a ha := (hm a).mpr (h.todo_sub a ha)
  lits_sub a ha := (hm a).mpr (h.lits_sub a ha)
  covered a ha := h.covered a ((hm a).mp ha)
  only c hc := let ⟨l, a, h1, h2, h3⟩ := h.only c hc; ⟨l, a, h1, (hm a).mpr h2, h3⟩
  pending hn a ha := h.pending hn a ((hm a).mp ha)

theorem inv_addAtom {d out A} (h : Inv d out A) (a : Int) : Inv (d.addAtom a) out (a :: A) := by
  by_cases hc : a ∈ d.literals
  · rw [addAtom_of_mem hc]
    exact h.congr fun x => List.mem_cons.trans (or_iff_right_of_imp fun e => e ▸ h.lits_sub a hc)
  · rw [addAtom_of_not_mem hc]
    exact {
      todo_sub := List.forall_mem_append.mpr ⟨fun x hx => .tail _ (h.todo_sub x hx), List.forall_mem_singleton.2 (.head _)⟩
      lits_sub := List.forall_mem_cons.mpr ⟨.head _, fun x hx => .tail _ (h.lits_sub x hx)⟩
      covered := List.forall_mem_cons.mpr
        ⟨.inl (List.mem_append_right _ (.head _)), fun x hx => (h.covered x hx).imp_left (List.mem_append_left _)⟩
      only := fun c hcl => let ⟨l, b, h1, h2, h3⟩ := h.only c hcl; ⟨l, b, h1, .tail _ h2, h3⟩
      pending := fun hn => List.forall_mem_cons.mpr ⟨.head _, fun x hx => .tail _ (h.pending hn x hx)⟩ }

theorem inv_translate {d out A} (h : Inv d out A) (src : LitSource) :
    Inv (d.translate src).1 (out ++ (d.translate src).2) A := by
  obtain ⟨l, lits, o, he, hl, hsub, ho⟩ := translate_spec d src
  rw [he]
  refine ⟨List.forall_mem_nil _, fun a ha => h.lits_sub a (hsub a ha), fun a ha => .inr ⟨l, rfl, ?_⟩, fun c hc => ?_, nofun⟩
  · rcases h.covered a ha with h1 | ⟨l', h1, h2⟩
    · refine .inr fun c hc => ?_
      simp only [List.mem_append, List.mem_flatMap, List.mem_map]
      exact .inr (.inr ⟨a, h1, c, hc, rfl⟩)
    · cases hl l' h1
      exact h2.imp_right fun h2 c hc => List.mem_append_left _ (h2 c hc)
  · simp only [List.mem_append, List.mem_flatMap, List.mem_map] at hc
    rcases hc with hc | hc | ⟨a, ha, c', hc', e⟩
    · obtain ⟨l', a, h1, h2, h3⟩ := h.only c hc
      cases hl l' h1
      exact ⟨l, a, rfl, h2, h3⟩
    · exact absurd hc (ho c)
    · cases e
      exact ⟨l, a, rfl, h.todo_sub a ha, hc'⟩

/- Every registration conses its atom onto `A`, hence the `reverse`; only the members of `A` matter (`Inv.congr`). -/
theorem inv_run : ∀ (ops : List SDOp) {d : StepData} {out : List SDOut} {A : List Int}, Inv d out A →
    Inv (d.run ops).1 (out ++ (d.run ops).2) ((added ops).reverse ++ A)
  | [], _, _, _, h => by simpa [StepData.run, added] using h
  | .addAtom a :: ops, _, _, _, h => by
    simpa [StepData.run, StepData.step, added] using inv_run ops (inv_addAtom h a)
  | .translate s :: ops, _, _, _, h => by
    simpa [StepData.run, StepData.step, added, List.append_assoc] using inv_run ops (inv_translate h s)

theorem inv_run_init (ops : List SDOp) : Inv (StepData.run {} ops).1 (StepData.run {} ops).2 (added ops) := by
  simpa using (inv_run ops inv_init).congr (B := added ops) (by simp)

theorem literal_stable_step (d : StepData) (op : SDOp) (l : Int) (h : d.literal = some l) :
    (d.step op).1.literal = some l := by
  cases op with
  | addAtom a => exact (addAtom_literal d a).trans h
  | translate s =>
    obtain ⟨l', _, _, he, hl, _⟩ := translate_spec d s
    rw [StepData.step, he, hl l h]

theorem literal_stable : ∀ (ops : List SDOp) (d : StepData) (l : Int), d.literal = some l → (d.run ops).1.literal = some l
  | [], _, _, h => h
  | op :: ops, d, l, h => literal_stable ops _ l (literal_stable_step d op l h)

theorem occurrences_equated (ops : List SDOp) (s : LitSource) :
    ∃ l, (StepData.run {} (ops ++ [.translate s])).1.literal = some l ∧
      (∀ a ∈ added ops, a = l ∨ ∀ c ∈ makeEqual a l, SDOut.clause c ∈ (StepData.run {} (ops ++ [.translate s])).2) ∧
      (∀ c, SDOut.clause c ∈ (StepData.run {} (ops ++ [.translate s])).2 → ∃ a ∈ added ops, c ∈ makeEqual a l) := by
  have hinv := (inv_run_init (ops ++ [.translate s])).congr (B := added ops) (by simp [mem_added])
  -- the last operation leaves a literal and an empty todo list
  obtain ⟨l, lits, o, he, -⟩ := translate_spec (StepData.run {} ops).1 s
  have hd : (StepData.run {} (ops ++ [.translate s])).1 = { literal := some l, literals := lits, todo := [] } := by
    rw [run_append]
    simp only [StepData.run, StepData.step, he]
  rw [hd] at hinv ⊢
  refine ⟨l, rfl, fun a ha => ?_, fun c hc => ?_⟩
  · rcases hinv.covered a ha with h1 | ⟨_, h1, h2⟩
    · cases h1
    · cases h1
      exact h2
  · obtain ⟨_, a, h1, h2, h3⟩ := hinv.only c hc
    cases h1
    exact ⟨a, h2, h3⟩

theorem occurrences_follow (ops : List SDOp) (s : LitSource) (v : Nat → Bool)
    (hv : ∀ c, SDOut.clause c ∈ (StepData.run {} (ops ++ [.translate s])).2 → Clause.ok v c = true) :
    ∃ l, (StepData.run {} (ops ++ [.translate s])).1.literal = some l ∧
      ∀ a ∈ added ops, a ≠ 0 → l ≠ 0 → litTrue v a = litTrue v l := by
  obtain ⟨l, hl, hcov, _⟩ := occurrences_equated ops s
  refine ⟨l, hl, ?_⟩
  intro a ha ha0 hl0
  rcases hcov a ha with rfl | hc
  · rfl
  · have h2 : clausesOk v (makeEqual a l) = true := List.all_eq_true.mpr fun c hcm => hv c (hc c hcm)
    exact eq_of_beq ((makeEqual_ok v a l ha0 hl0).symm.trans h2)

theorem added_perm_translate (ops1 ops2 : List SDOp) (hp : ops1.Perm ops2) : ∀ a, a ∈ added ops1 ↔ a ∈ added ops2 :=
  fun _ => by rw [mem_added, mem_added, hp.mem_iff]

theorem listMin_eq_min? : ∀ l : List Int, listMin l = l.min?
  | [] => rfl
  | x :: xs => by
    rw [listMin, listMin_eq_min? xs, List.min?_cons]
    cases xs.min? <;> rfl

theorem listMin_congr (l1 l2 : List Int) (hm : ∀ x, x ∈ l1 ↔ x ∈ l2) : listMin l1 = listMin l2 := by
  rw [listMin_eq_min?, listMin_eq_min?]
  exact Option.ext fun m => by simp only [List.min?_eq_some_iff, hm]

theorem representative (d : StepData) (fresh : Int) (hn : d.literal = none) :
    (d.translate (.own fresh)).1.literal =
      some (match listMin d.literals with | some m => m | none => fresh) := by
  unfold StepData.translate
  simp only [hn, StepData.addLiteral]
  cases hm : listMin d.literals <;> rfl

def regs (as : List Int) : List SDOp := as.map SDOp.addAtom

theorem regs_literal : ∀ (as : List Int) (d : StepData), (d.run (regs as)).1.literal = d.literal
  | [], _ => rfl
  | a :: as, d => (regs_literal as (d.addAtom a)).trans (addAtom_literal d a)

theorem regs_state (as : List Int) :
    (StepData.run {} (regs as)).1.literal = none ∧ ∀ x, x ∈ (StepData.run {} (regs as)).1.literals ↔ x ∈ as := by
  have hn := regs_literal as {}
  have h := (inv_run_init (regs as)).congr (B := as) (by simp [mem_added, regs])
  exact ⟨hn, fun x => ⟨h.lits_sub x, h.pending hn x⟩⟩

theorem representative_regs (as : List Int) (fresh : Int) :
    (StepData.run {} (regs as ++ [.translate (.own fresh)])).1.literal =
      some (match listMin as with | some m => m | none => fresh) := by
  rw [run_append]
  simp only [StepData.run, StepData.step]
  rw [representative _ fresh (regs_state as).1, listMin_congr _ as (regs_state as).2]

theorem representative_order_independent (as bs : List Int) (fresh : Int) (hm : ∀ x, x ∈ as ↔ x ∈ bs) :
    (StepData.run {} (regs as ++ [.translate (.own fresh)])).1.literal =
    (StepData.run {} (regs bs ++ [.translate (.own fresh)])).1.literal := by
  rw [representative_regs, representative_regs, listMin_congr as bs hm]

end TelProofs.SD
