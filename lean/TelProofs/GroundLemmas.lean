/-
What the model's accumulated ground program `G P h` contains, as iffs in terms of `r ∈ P` (the program matters only as
a set of rules): the copies of a rule (`rule_copies`), what one `ground` call adds (`mem_groundAt`), the whole of it
(`mem_G`), with intro forms for an instance, a bridge rule and an assumption (`inst_mem_groundAt`, `bridge_mem_G`,
`assumption_mem_G`).  Then the shape of an instance (`instAt_eq`, `mkRule_sat`) and of the stable models (`stable_shape`,
`stable_future_target`: C09).
-/
import TelProofs.ASPLemmas

namespace TelProofs
open TelSpec TelModel TelModel.Generated

/-- E2, the generated part-selection test, says what the documentation of `imain` says -/
theorem partCond_spec (root : String) (step i : Int) :
    partCond root step i = true ↔
      (root = "always" ∧ 0 ≤ step - i) ∨ (root = "dynamic" ∧ 0 < step - i) ∨ (root = "initial" ∧ step - i = 0) := by
  simp only [partCond, Bool.or_eq_true, Bool.and_eq_true, decide_eq_true_eq, beq_iff_eq, and_comm, or_assoc, ge_iff_le, gt_iff_lt]

/-- does the root of the rule's part apply at step `s`? -/
def rootOK (r : TRule) (s : Nat) : Bool :=
  match rootOf r.part with
  | .always => true
  | .dynamic => decide (0 < s)
  | .initial => s == 0

theorem partCond_rootOK (r : TRule) (s : Nat) (i : Int) :
    partCond (rootOf r.part).name (s : Int) i = true ↔ i ≤ s ∧ rootOK r ((s : Int) - i).toNat = true := by
  rw [partCond_spec]
  unfold rootOK
  cases rootOf r.part <;> simp [Root.name] <;> omega

theorem lookKeys_mem (P : TProg) (root : Root) (n : Nat) :
    (root, n) ∈ lookKeys P ↔ ∃ r ∈ P, 0 < lookahead r ∧ (rootOf r.part, lookahead r) = (root, n) := by
  refine (mem_foldl_keys (key := fun (r : TRule) x => 0 < lookahead r ∧ x = (rootOf r.part, lookahead r))
    (fun acc r x => ?_) _ P []).trans (by simp [eq_comm])
  exact mem_addNew.trans (by simp only [decide_eq_true_eq, gt_iff_lt])

theorem futureHeads_iff (P : TProg) (a : String) (n : Nat) :
    (a, n) ∈ futureHeads P ↔ ∃ r ∈ P, r.head = .atom a n ∧ 0 < n := by
  refine (mem_foldl_keys (key := fun (r : TRule) x => r.head = .atom x.1 x.2 ∧ 0 < x.2)
    (fun acc r x => ?_) _ P []).trans (by simp)
  cases hh : r.head with
  | atom b m =>
    refine mem_addNew.trans (or_congr_right ?_)
    simp only [decide_eq_true_eq, gt_iff_lt, Head.atom.injEq]
    constructor
    · rintro ⟨h, rfl⟩
      exact ⟨⟨rfl, rfl⟩, h⟩
    · rintro ⟨⟨rfl, rfl⟩, h⟩
      exact ⟨h, rfl⟩
  | _ => simp

theorem mem_spartsOf (P : TProg) (p : SPart) :
    p ∈ spartsOf P ↔
      match p.kind with
      | .std => True
      | .temp n => (p.root, n) ∈ lookKeys P
      | .perm n => (p.root, n) ∈ lookKeys P := by
  obtain ⟨root, kind⟩ := p
  simp only [spartsOf, List.mem_append, List.mem_flatMap, Prod.exists, List.mem_cons, SPart.mk.injEq, List.not_mem_nil,
    or_false]
  cases kind
  · cases root <;> simp
  · simp
  · simp

theorem mem_selected (P : TProg) (s : Nat) (p : SPart) (t : Int) :
    (p, t) ∈ selected P s ↔ p ∈ spartsOf P ∧ ∃ i ∈ p.range, t = (s : Int) - i ∧ partCond p.root.name (s : Int) i = true := by
  simp only [selected, List.mem_flatMap, List.mem_filterMap, Option.ite_none_right_eq_some, Option.some.injEq,
    Prod.mk.injEq]
  constructor
  · rintro ⟨_, hp, i, hi, hc, rfl, rfl⟩
    exact ⟨hp, i, hi, rfl, hc⟩
  · rintro ⟨hp, i, hi, rfl, hc⟩
    exact ⟨p, hp, i, hi, hc, rfl, rfl⟩

/-- the call log of `imain` (layer L2) grounds exactly the selected part instances -/
theorem groundParts_eq_selected (P : TProg) (s : Nat) :
    groundParts (partsOf P) s = (selected P s).map fun pt => ⟨pt.1.name, pt.2, (s : Int)⟩ := by
  simp only [groundParts, partsOf, selected, List.flatMap_map, List.map_flatMap, SPart.toSpec, List.map_filterMap]
  congr 1
  funext p
  congr 1
  funext i
  split <;> simp [*]

theorem mem_rulesOfPart (P : TProg) (p : SPart) (r : TRule) (g : Bool) :
    (r, g) ∈ rulesOfPart P p ↔ r ∈ P ∧ rootOf r.part = p.root ∧
      match p.kind with
      | .std => lookahead r = 0 ∧ g = false
      | .temp n => lookahead r = n ∧ 0 < n ∧ g = true
      | .perm n => lookahead r = n ∧ 0 < n ∧ g = false := by
  obtain ⟨root, kind⟩ := p
  have hne {q : TRule} (h : rootOf q.part = root) : ¬ (rootOf q.part != root) = true := by
    rw [h, bne_self_eq_false]
    exact Bool.false_ne_true
  simp only [rulesOfPart, List.mem_filterMap]
  constructor
  · rintro ⟨q, hq, hsel⟩
    by_cases hroot : rootOf q.part = root
    · rw [if_neg (hne hroot)] at hsel
      cases kind
      all_goals
        simp only [Option.ite_none_right_eq_some, Option.some.injEq, Prod.mk.injEq, Bool.and_eq_true,
          decide_eq_true_eq] at hsel
        obtain ⟨hl, rfl, rfl⟩ := hsel
      · exact ⟨hq, hroot, hl, rfl⟩
      · exact ⟨hq, hroot, hl.1, hl.2, rfl⟩
      · exact ⟨hq, hroot, hl.1, hl.2, rfl⟩
    · rw [if_pos (bne_iff_ne.mpr hroot)] at hsel
      cases hsel
  · rintro ⟨hr, hroot, hk⟩
    refine ⟨r, hr, ?_⟩
    rw [if_neg (hne hroot)]
    cases kind with
    | std =>
      obtain ⟨hl, rfl⟩ := hk
      exact if_pos hl
    | temp n | perm n =>
      obtain ⟨hl, hn, rfl⟩ := hk
      exact if_pos (Bool.and_eq_true_iff.mpr ⟨decide_eq_true hl, decide_eq_true hn⟩)

theorem range_nonneg {p : SPart} : ∀ i ∈ p.range, (0 : Int) ≤ i := by
  intro i hi
  unfold SPart.range at hi
  split at hi
  · exact Int.le_of_eq (List.mem_singleton.mp hi).symm
  · obtain ⟨j, _, rfl⟩ := List.mem_map.mp hi
    exact Int.natCast_nonneg j
  · exact List.mem_singleton.mp hi ▸ Int.natCast_nonneg _

/-- the copies of a rule: offset `j` (the instance for position `s - j` is made at step `s`) exists for
    `j ≤ lookahead r`; the copy at the full look-ahead is permanent, the earlier ones are guarded -/
theorem rule_copies (P : TProg) (r : TRule) (g : Bool) (j : Nat) :
    (∃ kind, (⟨rootOf r.part, kind⟩ : SPart) ∈ spartsOf P ∧ (j : Int) ∈ SPart.range ⟨rootOf r.part, kind⟩ ∧
        (r, g) ∈ rulesOfPart P ⟨rootOf r.part, kind⟩) ↔
      r ∈ P ∧ j ≤ lookahead r ∧ g = decide (j < lookahead r) := by
  simp only [mem_rulesOfPart, mem_spartsOf, SPart.range, true_and]
  constructor
  · rintro ⟨kind, hp, hj, hr, hk⟩
    refine ⟨hr, ?_⟩
    cases kind with
    | std =>
      obtain ⟨hl, rfl⟩ := hk
      obtain rfl : j = 0 := Int.ofNat.inj (List.mem_singleton.mp hj)
      rw [hl]
      exact ⟨Nat.le_refl 0, rfl⟩
    | temp n =>
      obtain ⟨rfl, -, rfl⟩ := hk
      obtain ⟨i, hi, hij⟩ := List.mem_map.mp hj
      obtain rfl : i = j := Int.ofNat.inj hij
      exact ⟨Nat.le_of_lt (List.mem_range.mp hi), (decide_eq_true (List.mem_range.mp hi)).symm⟩
    | perm n =>
      obtain ⟨rfl, -, rfl⟩ := hk
      obtain rfl : j = lookahead r := Int.ofNat.inj (List.mem_singleton.mp hj)
      exact ⟨Nat.le_refl _, (decide_eq_false (Nat.lt_irrefl _)).symm⟩
  · rintro ⟨hr, hj, rfl⟩
    have hkey : 0 < lookahead r → (rootOf r.part, lookahead r) ∈ lookKeys P :=
      fun hn => (lookKeys_mem P _ _).mpr ⟨r, hr, hn, rfl⟩
    -- an offset below the look-ahead lies in the temporary part; the full one in the permanent part, or in the
    -- standard part when there is no look-ahead
    rcases Nat.lt_or_eq_of_le hj with hlt | rfl
    · have hpos : 0 < lookahead r := Nat.zero_lt_of_lt hlt
      exact ⟨.temp (lookahead r), hkey hpos, List.mem_map.mpr ⟨j, List.mem_range.mpr hlt, rfl⟩, hr, rfl, hpos,
        decide_eq_true hlt⟩
    · have hirr := decide_eq_false (Nat.lt_irrefl (lookahead r))
      rcases Nat.eq_zero_or_pos (lookahead r) with h0 | hpos
      · exact ⟨.std, trivial, List.mem_singleton.mpr (Int.natCast_eq_zero.mpr h0), hr, h0, hirr⟩
      · exact ⟨.perm (lookahead r), hkey hpos, List.mem_singleton.mpr rfl, hr, rfl, hpos, hirr⟩

/-- the guard of the instance for position `t` made at step `s`: the copy made at step `t + lookahead r`
    is permanent, the earlier ones are temporary and carry `__final(s)` -/
def guardAt (r : TRule) (s t : Nat) : Option Int := if s < t + lookahead r then some (s : Int) else none

/-- the guard of the copy at offset `j`, as `groundAt` passes it to `instAt` -/
theorem guardAt_offset (r : TRule) {s j : Nat} (hj : j ≤ s) :
    (if decide (j < lookahead r) = true then some (s : Int) else none) = guardAt r s (s - j) := by
  have hc : decide (j < lookahead r) = true ↔ s < s - j + lookahead r := by
    rw [decide_eq_true_eq]
    omega
  simp only [guardAt, hc]

/-- **what one `ground` call adds**: position `t` of rule `r` is instantiated at every step `s` from `t` to
    `t + lookahead r` (root condition permitting); besides, the bridge rules of the future heads and `__initial(0)` -/
theorem mem_groundAt (P : TProg) (s : Nat) (r' : GRule) :
    r' ∈ groundAt P s ↔
      (∃ r ∈ P, ∃ t : Nat, t ≤ s ∧ s ≤ t + lookahead r ∧ rootOK r t = true ∧
        instAt s (t : Int) (guardAt r s t) r = some r') ∨
      (∃ a n, (a, n) ∈ futureHeads P ∧ r' = { head := [.user a (s : Int)], pos := [.future a n (s : Int)] }) ∨
      (s = 0 ∧ r' = { head := [.initial 0] }) := by
  unfold groundAt
  rw [List.mem_flatMap]
  constructor
  · rintro ⟨⟨p, t⟩, hsel, hr'⟩
    obtain ⟨hp, i, hi, rfl, hc⟩ := (mem_selected P s p _).mp hsel
    rcases (List.mem_append.mp hr').imp_left List.mem_append.mp with (hr' | hb) | hini
    · left
      obtain ⟨⟨r, g⟩, hmem, hinst⟩ := List.mem_filterMap.mp hr'
      dsimp only at hinst
      obtain ⟨root, kind⟩ := p
      obtain rfl : rootOf r.part = root := ((mem_rulesOfPart P _ r g).mp hmem).2.1
      -- the part instance is the copy of `r` at offset `j = i`: `rule_copies` says which offsets exist and which are guarded
      obtain ⟨j, rfl⟩ := Int.eq_ofNat_of_zero_le (range_nonneg i hi)
      obtain ⟨hrP, hj, rfl⟩ := (rule_copies P r g j).mp ⟨kind, hp, hi, hmem⟩
      obtain ⟨hjs, hok⟩ := (partCond_rootOK r s j).mp hc
      replace hjs : j ≤ s := Int.ofNat_le.mp hjs
      rw [← Int.ofNat_sub hjs] at hinst hok
      rw [Int.toNat_natCast] at hok
      refine ⟨r, hrP, s - j, Nat.sub_le s j, ?_, hok, ?_⟩
      · calc s = s - j + j := (Nat.sub_add_cancel hjs).symm
          _ ≤ s - j + lookahead r := Nat.add_le_add_left hj _
      · rw [← hinst, guardAt_offset r hjs]
    · right
      left
      split at hb
      · subst p
        obtain rfl : i = 0 := List.mem_singleton.mp hi
        obtain ⟨⟨a, n⟩, hf, rfl⟩ := List.mem_map.mp hb
        exact ⟨a, n, hf, by rw [Int.sub_zero]⟩
      · cases hb
    · right
      right
      split at hini
      · subst p
        obtain rfl : i = 0 := List.mem_singleton.mp hi
        obtain rfl : s = 0 := by
          have := (partCond_spec _ _ _).mp hc
          simp [Root.name] at this
          omega
        exact ⟨rfl, List.mem_singleton.mp hini⟩
      · cases hini
  · rintro (⟨r, hr, t, hts, hst, hok, hinst⟩ | ⟨a, n, hf, rfl⟩ | ⟨rfl, rfl⟩)
    · obtain ⟨kind, hp, hi, hmem⟩ := (rule_copies P r _ (s - t)).mpr ⟨hr, Nat.sub_le_iff_le_add'.mpr hst, rfl⟩
      have ht : ((s : Int) - ((s - t : Nat) : Int)) = (t : Int) := by rw [Int.ofNat_sub hts, Int.sub_sub_self]
      have hsel : ((⟨rootOf r.part, kind⟩ : SPart), (t : Int)) ∈ selected P s := (mem_selected P s _ _).mpr
        ⟨hp, _, hi, ht.symm, (partCond_rootOK r s _).mpr ⟨Int.ofNat_le.mpr (Nat.sub_le s t), by rwa [ht]⟩⟩
      refine ⟨_, hsel, List.mem_append_left _ (List.mem_append_left _ (List.mem_filterMap.mpr ⟨(r, _), hmem, ?_⟩))⟩
      dsimp only
      rw [← hinst, guardAt_offset r (Nat.sub_le s t), Nat.sub_sub_self hts]
    · have hsel : ((⟨.always, .std⟩ : SPart), (s : Int)) ∈ selected P s := (mem_selected P s _ _).mpr
        ⟨(mem_spartsOf P _).mpr trivial, 0, List.mem_singleton.mpr rfl, (Int.sub_zero _).symm,
          (partCond_spec _ _ _).mpr (Or.inl ⟨rfl, by omega⟩)⟩
      refine ⟨_, hsel, List.mem_append_left _ (List.mem_append_right _ ?_)⟩
      rw [if_pos rfl]
      exact List.mem_map.mpr ⟨(a, n), hf, rfl⟩
    · have hsel : ((⟨.initial, .std⟩ : SPart), (0 : Int)) ∈ selected P 0 := (mem_selected P 0 _ _).mpr
        ⟨(mem_spartsOf P _).mpr trivial, 0, List.mem_singleton.mpr rfl, rfl,
          (partCond_spec _ _ _).mpr (Or.inr (Or.inr ⟨rfl, rfl⟩))⟩
      refine ⟨_, hsel, List.mem_append_right _ ?_⟩
      rw [if_pos rfl]
      exact List.mem_singleton.mpr rfl

theorem mem_accRules (P : TProg) (h : Nat) (r : GRule) : r ∈ accRules P h ↔ ∃ s, s ≤ h ∧ r ∈ groundAt P s := by
  induction h with
  | zero => simp [accRules]
  | succ n ih =>
    simp only [accRules, List.mem_append, ih, Nat.le_succ_iff]
    constructor
    · rintro (⟨s, hs, hr⟩ | hr)
      · exact ⟨s, Or.inl hs, hr⟩
      · exact ⟨n + 1, Or.inr rfl, hr⟩
    · rintro ⟨s, hs | rfl, hr⟩
      · exact Or.inl ⟨s, hs, hr⟩
      · exact Or.inr hr

theorem mem_futureAtoms (rs : List GRule) (a : String) (n : Nat) (k : Int) :
    GAtom.future a n k ∈ futureAtoms rs ↔ ∃ r ∈ rs, GAtom.future a n k ∈ r.head := by
  simp only [futureAtoms, List.mem_eraseDups, List.mem_flatMap, List.mem_filter, and_true]

/-- the assumptions of `G`: one constraint against every `__future_*` head atom beyond the horizon -/
theorem mem_assumptions (rs : List GRule) (h : Nat) (r' : GRule) :
    r' ∈ ((futureAtoms rs).filterMap fun x => match x with
          | .future y m j => if assumeCond j (h : Int) then some ({ head := [], pos := [.future y m j] } : GRule) else none
          | _ => none) ↔
      ∃ a n k, (∃ r ∈ rs, GAtom.future a n k ∈ r.head) ∧ (h : Int) < k ∧ r' = { head := [], pos := [.future a n k] } := by
  simp only [List.mem_filterMap]
  constructor
  · rintro ⟨x, hx, hsel⟩
    split at hsel
    · rename_i a n k
      simp only [Option.ite_none_right_eq_some, Option.some.injEq, assumeCond, decide_eq_true_eq] at hsel
      exact ⟨a, n, k, (mem_futureAtoms rs a n k).mp hx, hsel.1, hsel.2.symm⟩
    · cases hsel
  · rintro ⟨a, n, k, hex, hk, rfl⟩
    exact ⟨.future a n k, (mem_futureAtoms rs a n k).mpr hex, by simp [assumeCond, hk]⟩

theorem mem_G (P : TProg) (h : Nat) (r' : GRule) :
    r' ∈ G P h ↔ (∃ s, s ≤ h ∧ r' ∈ groundAt P s) ∨ r' = { head := [.final h] } ∨
      ∃ a n k, (∃ r ∈ accRules P h, GAtom.future a n k ∈ r.head) ∧ (h : Int) < k ∧
        r' = { head := [], pos := [.future a n k] } := by
  simp only [G, List.mem_append, List.mem_singleton, ← mem_accRules, or_assoc]
  exact or_congr_right (or_congr_right (mem_assumptions _ h r'))

theorem G_of_groundAt {P : TProg} {h s : Nat} (hs : s ≤ h) {r' : GRule} (hr : r' ∈ groundAt P s) : r' ∈ G P h :=
  (mem_G P h r').mpr (Or.inl ⟨s, hs, hr⟩)

theorem inst_mem_groundAt {P : TProg} {r : TRule} (hr : r ∈ P) {s t : Nat} (hts : t ≤ s) (hst : s ≤ t + lookahead r)
    (hok : rootOK r t = true) {r' : GRule} (hi : instAt s (t : Int) (guardAt r s t) r = some r') : r' ∈ groundAt P s :=
  (mem_groundAt P s r').mpr (Or.inl ⟨r, hr, t, hts, hst, hok, hi⟩)

theorem bridge_mem_G {P : TProg} {a : String} {n : Nat} (hf : (a, n) ∈ futureHeads P) {s h : Nat} (hs : s ≤ h) :
    ({ head := [.user a (s : Int)], pos := [.future a n (s : Int)] } : GRule) ∈ G P h :=
  G_of_groundAt hs ((mem_groundAt P s _).mpr (Or.inr (Or.inl ⟨a, n, hf, rfl⟩)))

theorem assumption_mem_G {P : TProg} {h : Nat} {a : String} {n : Nat} {k : Int}
    (hex : ∃ r ∈ accRules P h, GAtom.future a n k ∈ r.head) (hk : (h : Int) < k) :
    ({ head := [], pos := [.future a n k] } : GRule) ∈ G P h :=
  (mem_G P h _).mpr (Or.inr (Or.inr ⟨a, n, k, hex, hk, rfl⟩))

theorem final_fact_mem (P : TProg) (h : Nat) : ({ head := [.final h] } : GRule) ∈ G P h :=
  (mem_G P h _).mpr (Or.inr (Or.inl rfl))

theorem initial_fact_mem (P : TProg) (h : Nat) : ({ head := [.initial 0] } : GRule) ∈ G P h :=
  G_of_groundAt (Nat.zero_le h) ((mem_groundAt P 0 _).mpr (Or.inr (Or.inr ⟨rfl, rfl⟩)))

/-! ### the shape of an instance -/

def litVal (H X : Interp) : LitRes → Bool
  | .tt => true
  | .ff => false
  | .pos a => H a
  | .neg a => !(X a)
  | .nneg a => X a

theorem mkRule_some {head : List GAtom} {c : Bool} {lits : List LitRes} {r : GRule}
    (h : mkRule head c lits = some r) :
    r.head = head ∧ r.choice = c ∧ ∀ H X, r.bodyHolds H X = lits.all (litVal H X) := by
  unfold mkRule at h
  split at h
  · cases h
  · rename_i hno
    cases h
    refine ⟨rfl, rfl, fun H X => ?_⟩
    simp only [GRule.bodyHolds]
    induction lits with
    | nil => rfl
    | cons l ls ih =>
      rw [List.any_cons, Bool.or_eq_true, not_or] at hno
      rw [List.all_cons, ← ih hno.2]
      cases l with
      | ff => exact absurd rfl hno.1
      | tt => rfl
      | pos a => simp only [List.filterMap_cons, List.all_cons, litVal, Bool.and_assoc]
      | neg a =>
        simp only [List.filterMap_cons, List.all_cons, litVal]
        -- the new conjunct moves to the front (sorting the conjunctions by `simp` is slow on these terms)
        rw [Bool.and_left_comm (List.all _ H), Bool.and_assoc]
      | nneg a =>
        simp only [List.filterMap_cons, List.all_cons, litVal]
        exact Bool.and_left_comm ..

theorem mkRule_none {head : List GAtom} {c : Bool} {lits : List LitRes} (H X : Interp)
    (h : mkRule head c lits = none) : lits.all (litVal H X) = false := by
  unfold mkRule at h
  split at h
  · rename_i hany
    obtain ⟨l, hl, hm⟩ := List.any_eq_true.mp hany
    refine List.all_eq_false.mpr ⟨l, hl, ?_⟩
    cases l <;> simp [litVal] at hm ⊢
  · cases h

theorem mkRule_sat (H X : Interp) (head : List GAtom) (c : Bool) (lits : List LitRes) :
    (mkRule head c lits).all (·.sat H X) =
      (!(lits.all (litVal H X)) || if c then head.all (fun a => H a || !(X a)) else head.any H) := by
  cases hm : mkRule head c lits with
  | none => simp [mkRule_none H X hm]
  | some r =>
    obtain ⟨h1, h2, h3⟩ := mkRule_some hm
    simp only [Option.all_some, GRule.sat, GRule.headHolds, h1, h2, h3]

theorem mkRule_pos_mem {head : List GAtom} {c : Bool} {lits : List LitRes} {r : GRule} {a : GAtom}
    (h : mkRule head c lits = some r) (ha : LitRes.pos a ∈ lits) : a ∈ r.pos := by
  unfold mkRule at h
  split at h <;> cases h
  exact List.mem_filterMap.mpr ⟨_, ha, rfl⟩

def flipSign : Sign → Sign
  | .not => .notnot
  | .notnot => .not
  | .pos => .pos

def guardLits : Option Int → List LitRes
  | some u => [.pos (.final u)]
  | none => []

def headLits (s : Nat) (t : Int) : Head → List LitRes
  | .nlit sg a n => [signLit (flipSign sg) (known s (t + n)) (.user a (t + n))]
  | _ => []

/-- all evaluated literals of the instance: body, `__final(t)` of final-part rules, the guard of a
    temporary copy, the flipped head literal of a `not` / `not not` head -/
def instLits (s : Nat) (t : Int) (guard : Option Int) (r : TRule) : List LitRes :=
  r.body.map (litAt s t) ++ (if r.part == .final then [LitRes.pos (.final t)] else []) ++ guardLits guard ++
    headLits s t r.head

def instHead (t : Int) : Head → List GAtom
  | .atom a n => [if n = 0 then .user a t else .future a n (t + n)]
  | .disj as => as.map fun a => .user a t
  | .choice as => as.map fun a => .user a t
  | _ => []

def isChoice : Head → Bool
  | .choice _ => true
  | _ => false

/-- the instance, assembled from its head atoms and its evaluated literals (`&tel` heads are outside the rule fragment) -/
theorem instAt_eq (s : Nat) (t : Int) (guard : Option Int) (r : TRule) :
    instAt s t guard r = match r.head with
      | .tel _ => none
      | hd => mkRule (instHead t hd) (isChoice hd) (instLits s t guard r) := by
  -- `instAt` appends `__final(t)`, the guard and the flipped head literal to the body one after the other
  have hfin (b : List LitRes) : (if r.part == .final then b ++ [LitRes.pos (.final t)] else b) =
      b ++ if r.part == .final then [LitRes.pos (.final t)] else [] := by
    split
    · rfl
    · exact (List.append_nil b).symm
  unfold instAt instLits
  simp only [hfin]
  cases guard <;> cases r.head
  case none.nlit | some.nlit =>
    simp only [guardLits, headLits, instHead, isChoice, List.append_nil]
    -- `flipSign` is the `match` that `instAt` has in this place
    rfl
  all_goals simp only [guardLits, headLits, instHead, isChoice, List.append_nil]

theorem instAt_eq_mkRule {s : Nat} {t : Int} {guard : Option Int} {r : TRule} (hnt : ∀ f, r.head ≠ .tel f) :
    instAt s t guard r = mkRule (instHead t r.head) (isChoice r.head) (instLits s t guard r) := by
  rw [instAt_eq]
  cases hh : r.head with
  | tel f => exact absurd hh (hnt f)
  | _ => rfl

theorem mkRule_of_instAt {s : Nat} {t : Int} {guard : Option Int} {r : TRule} {r' : GRule}
    (h : instAt s t guard r = some r') :
    mkRule (instHead t r.head) (isChoice r.head) (instLits s t guard r) = some r' := by
  rw [← h, instAt_eq_mkRule]
  intro f hf
  rw [instAt_eq, hf] at h
  cases h

theorem instAt_guard {s : Nat} {t u : Int} {r : TRule} {r' : GRule} (h : instAt s t (some u) r = some r') :
    GAtom.final u ∈ r'.pos :=
  mkRule_pos_mem (mkRule_of_instAt h) (by simp [instLits, guardLits])

theorem instAt_of_lits {H X : Interp} {s : Nat} {t : Int} {guard : Option Int} {r : TRule} (hnt : ∀ f, r.head ≠ .tel f)
    (hb : (instLits s t guard r).all (litVal H X) = true) : ∃ r', instAt s t guard r = some r' ∧ r'.head = instHead t r.head := by
  rw [instAt_eq_mkRule hnt]
  cases hm : mkRule (instHead t r.head) (isChoice r.head) (instLits s t guard r) with
  | none =>
    rw [mkRule_none H X hm] at hb
    cases hb
  | some r' => exact ⟨r', rfl, (mkRule_some hm).1⟩

theorem future_mem_instHead {t : Int} {hd : Head} {a : String} {n : Nat} {k : Int} :
    GAtom.future a n k ∈ instHead t hd ↔ hd = .atom a n ∧ n ≠ 0 ∧ k = t + n := by
  cases hd with
  | atom b m =>
    simp only [instHead, List.mem_singleton, Head.atom.injEq]
    by_cases hm : m = 0
    · rw [if_pos hm]
      exact ⟨nofun, fun ⟨⟨_, hmn⟩, hn, _⟩ => absurd (hmn ▸ hm) hn⟩
    · rw [if_neg hm]
      constructor
      · intro he
        cases he
        exact ⟨⟨rfl, rfl⟩, hm, rfl⟩
      · rintro ⟨⟨rfl, rfl⟩, -, rfl⟩
        rfl
  | disj as | choice as =>
    simp only [instHead, List.mem_map, reduceCtorEq, and_false, exists_false, false_and]
  | _ => simp only [instHead, List.not_mem_nil, reduceCtorEq, false_and]

/-! ### the shape of the stable models (C09) -/

/-- what a head atom of a rule grounded up to step `s` can be: a user atom stamped in `0..s`, `__initial(0)`, or the
    auxiliary atom of a future head of `P` (`__final` occurs in the head of the fact only) -/
def HeadAtomOk (P : TProg) (s : Nat) (a : GAtom) : Prop :=
  match a with
  | .user _ k => 0 ≤ k ∧ k ≤ (s : Int)
  | .initial k => k = 0
  | .final _ => False
  | .future x n k => (x, n) ∈ futureHeads P ∧ (n : Int) ≤ k

theorem groundAt_heads (P : TProg) {s h : Nat} (hsh : s ≤ h) : ∀ r ∈ groundAt P s, ∀ a ∈ r.head, HeadAtomOk P h a := by
  intro r' hr' a ha
  rcases (mem_groundAt P s r').mp hr' with ⟨r, hr, t, hts, -, -, hinst⟩ | ⟨x, n, -, rfl⟩ | ⟨rfl, rfl⟩
  · have htime : (0 : Int) ≤ t ∧ (t : Int) ≤ h := ⟨Int.natCast_nonneg t, Int.ofNat_le.mpr (Nat.le_trans hts hsh)⟩
    rw [(mkRule_some (mkRule_of_instAt hinst)).1] at ha
    cases hh : r.head <;> rw [hh] at ha
    case atom x n =>
      obtain rfl := List.mem_singleton.mp ha
      split
      · exact htime
      · rename_i hn
        exact ⟨(futureHeads_iff P x n).mpr ⟨r, hr, hh, Nat.pos_of_ne_zero hn⟩, Int.le_add_of_nonneg_left htime.1⟩
    case disj | choice =>
      obtain ⟨x, -, rfl⟩ := List.mem_map.mp ha
      exact htime
    all_goals cases ha
  · obtain rfl : a = .user x s := List.mem_singleton.mp ha
    exact ⟨Int.natCast_nonneg s, Int.ofNat_le.mpr hsh⟩
  · obtain rfl : a = .initial 0 := List.mem_singleton.mp ha
    rfl

theorem G_heads (P : TProg) (h : Nat) : ∀ r ∈ G P h, ∀ a ∈ r.head, HeadAtomOk P h a ∨ a = .final h := by
  intro r hr a ha
  rcases (mem_G P h r).mp hr with ⟨s, hs, hg⟩ | rfl | ⟨_, _, _, _, _, rfl⟩
  · exact Or.inl (groundAt_heads P hs r hg a ha)
  · exact Or.inr (List.mem_singleton.mp ha)
  · cases ha

theorem stable_atom_ok {P : TProg} {h : Nat} {X : Interp} (hs : Stable (G P h) X) {a : GAtom} (hx : X a = true) :
    HeadAtomOk P h a ∨ a = .final h :=
  let ⟨r, hr, ha, _⟩ := stable_supported_body hs hx
  G_heads P h r hr a ha

theorem stable_shape {P : TProg} {h : Nat} {X : Interp} (hs : Stable (G P h) X) :
    (∀ a k, X (.user a k) = true → 0 ≤ k ∧ k ≤ (h : Int)) ∧ (∀ k, X (.initial k) = true ↔ k = 0) ∧
      (∀ k, X (.final k) = true ↔ k = (h : Int)) :=
  ⟨fun _ _ hx => (stable_atom_ok hs hx).resolve_right nofun,
   fun _ => ⟨fun hx => (stable_atom_ok hs hx).resolve_right nofun, fun hk => hk ▸ stable_fact hs (initial_fact_mem P h)⟩,
   fun _ => ⟨fun hx => GAtom.final.inj ((stable_atom_ok hs hx).resolve_left id),
     fun hk => hk ▸ stable_fact hs (final_fact_mem P h)⟩⟩

theorem stable_future_target {P : TProg} {h : Nat} {X : Interp} (hs : Stable (G P h) X) {a : String} {n : Nat} {k : Int}
    (hx : X (.future a n k) = true) : k ≤ (h : Int) ∧ X (.user a k) = true := by
  obtain ⟨r, hr, hmem, -⟩ := stable_supported_body hs hx
  obtain ⟨hfh, hnk⟩ : HeadAtomOk P h (.future a n k) := (G_heads P h r hr _ hmem).resolve_right nofun
  have hracc : r ∈ accRules P h := by
    rcases (mem_G P h r).mp hr with hr | rfl | ⟨_, _, _, _, _, rfl⟩
    · exact (mem_accRules P h r).mpr hr
    · cases List.mem_singleton.mp hmem
    · cases hmem
  -- beyond the horizon the assumption forbids the atom
  have hkh : k ≤ (h : Int) := Classical.byContradiction fun hgt => by
    have := hs.1 _ (assumption_mem_G ⟨r, hracc, hmem⟩ (Int.not_le.mp hgt))
    rw [sat_assumption, hx] at this
    cases this
  -- within it the bridge rule of step `k` derives the target
  obtain ⟨kn, rfl⟩ := Int.eq_ofNat_of_zero_le (Int.le_trans (Int.natCast_nonneg n) hnk)
  have := hs.1 _ (bridge_mem_G hfh (Int.ofNat_le.mp hkh))
  rw [sat_bridge, hx] at this
  exact ⟨hkh, this⟩

end TelProofs
