/-
The executable enumerator of the specification (`isTSM`, `tsmMasks`: the `telspec tsm` oracle of the searches) decides the
definition `TSM` that the theorems are about.  The masks it prints are exactly the masks below `2^(|atoms|·(h+1))` whose
trace is a temporal stable model consistent w.r.t. classical negation (`isTSM_iff`, `mem_tsmMasks`) — for any program: a
trace below that of a mask is false outside the enumerated atoms, and a rule reads its here-trace on the positions `0..h`
only (`sat_congr_here`).  That every consistent temporal stable model is printed, as the mask of its trace
(`tsm_enumerated`), needs the program to be without `&del` and over the enumerated atoms (`ruleOver`): such a rule sees no
more of either trace (`sat_congr_on`), so a stable model is false outside them (`tsm_outside_false`).  Masks below the bound
correspond one to one to traces on the enumerated atoms and the positions `0..h` (a trace that is false outside the
enumerated atoms is the trace of its mask: `maskTrace_traceMask_eq`), sub-masks to smaller traces (`subMask_of_le`,
`maskTrace_le`).
-/
import TelProofs.ThtCongr
import TelProofs.TraceLemmas

namespace TelProofs
open TelSpec

/-! ### numbers from bits -/

def bitsNat (f : Nat → Bool) : Nat → Nat
  | 0 => 0
  | n+1 => bitsNat f n + (if f n then 2^n else 0)

theorem bitsNat_lt (f : Nat → Bool) : ∀ n, bitsNat f n < 2^n
  | 0 => by simp [bitsNat]
  | n+1 => by
    have hbit : (if f n then 2^n else 0) ≤ 2^n := by
      split
      · exact Nat.le_refl _
      · exact Nat.zero_le _
    rw [bitsNat, Nat.pow_succ, Nat.mul_two]
    exact Nat.add_lt_add_of_lt_of_le (bitsNat_lt f n) hbit

theorem testBit_bitsNat (f : Nat → Bool) : ∀ n i, (bitsNat f n).testBit i = (decide (i < n) && f i)
  | 0, i => by simp [bitsNat]
  | n+1, i => by
    have step : (bitsNat f (n+1)).testBit i = ((bitsNat f n).testBit i || (decide (n = i) && f n)) := by
      rw [bitsNat]
      split
      · next hf =>
        -- the new bit lies above all bits of `bitsNat f n`, so adding it is setting it
        have e := Nat.two_pow_add_eq_or_of_lt (bitsNat_lt f n) 1
        rw [Nat.mul_one] at e
        rw [Nat.add_comm, e, Nat.testBit_or, Nat.testBit_two_pow, hf, Bool.and_true, Bool.or_comm]
      · next hf => rw [Nat.add_zero, Bool.eq_false_iff.mpr hf, Bool.and_false, Bool.or_false]
    rw [step, testBit_bitsNat f n i]
    by_cases hi : n = i
    · subst hi
      simp
    · have : ¬ i = n := fun e => hi e.symm
      simp [hi, Nat.lt_succ_iff_lt_or_eq, this]

theorem idxIn_none {l : List String} {a : String} : idxIn l a = none ↔ a ∉ l := by
  induction l with
  | nil => simp [idxIn]
  | cons x xs ih =>
    rw [idxIn, List.mem_cons, not_or]
    by_cases hx : x = a
    · simp [hx]
    · simp [hx, ih, Ne.symm hx]

theorem idxIn_some {l : List String} {a : String} {i : Nat} (h : idxIn l a = some i) : i < l.length ∧ l[i]? = some a := by
  induction l generalizing i with
  | nil => cases h
  | cons x xs ih =>
    rw [idxIn] at h
    split at h
    · next hx =>
      cases h
      exact ⟨Nat.zero_lt_succ _, by rw [List.getElem?_cons_zero, beq_iff_eq.mp hx]⟩
    · obtain ⟨j, hj, rfl⟩ := Option.map_eq_some_iff.mp h
      exact ⟨Nat.succ_lt_succ (ih hj).1, (List.getElem?_cons_succ ..).trans (ih hj).2⟩

theorem idxIn_getElem {l : List String} (hnd : l.Nodup) {i : Nat} (hi : i < l.length) : idxIn l l[i] = some i := by
  cases h : idxIn l l[i] with
  | none => exact absurd (List.getElem_mem hi) (idxIn_none.mp h)
  | some j =>
    rw [(List.getElem?_inj hi hnd).mp ((List.getElem?_eq_getElem hi).trans (idxIn_some h).2.symm)]

/-! ### masks and traces -/

theorem bit_pos {n i : Nat} (hi : i < n) (k : Nat) : (k * n + i) / n = k ∧ (k * n + i) % n = i := by
  rw [Nat.mul_comm, Nat.mul_add_div (by omega), Nat.mul_add_mod, Nat.div_eq_of_lt hi, Nat.mod_eq_of_lt hi]
  exact ⟨rfl, rfl⟩

theorem bit_cases {n h b : Nat} (hb : b < n * (h + 1)) : ∃ k i, k ≤ h ∧ i < n ∧ b = k * n + i := by
  have hn : 0 < n := Nat.pos_of_ne_zero fun h0 => by simp [h0] at hb
  refine ⟨b / n, b % n, Nat.le_of_lt_succ (Nat.div_lt_of_lt_mul hb), Nat.mod_lt b hn, ?_⟩
  rw [Nat.mul_comm, Nat.div_add_mod]

section
variable (atoms : List String) (h : Nat)

def traceMask (W : Trace) : Nat :=
  bitsNat (fun b => W (b / atoms.length) (atoms.getD (b % atoms.length) "")) (atoms.length * (h + 1))

theorem traceMask_lt (W : Trace) : traceMask atoms h W < 2 ^ (atoms.length * (h + 1)) := bitsNat_lt _ _

theorem maskTrace_notMem (m k : Nat) {a : String} (ha : a ∉ atoms) : maskTrace atoms m k a = false := by
  simp only [maskTrace, idxIn_none.mpr ha]

theorem maskTrace_le {s m : Nat} (hsub : s &&& m = s) (k : Nat) (a : String) :
    maskTrace atoms s k a = true → maskTrace atoms m k a = true := by
  simp only [maskTrace]
  cases idxIn atoms a with
  | none => exact id
  | some i =>
    show s.testBit _ = true → m.testBit _ = true
    intro hs
    rw [← hsub, Nat.testBit_and, Bool.and_eq_true] at hs
    exact hs.2

variable (hnd : atoms.Nodup)
include hnd

theorem maskTrace_bit (m k : Nat) {i : Nat} (hi : i < atoms.length) :
    maskTrace atoms m k atoms[i] = m.testBit (k * atoms.length + i) := by
  simp only [maskTrace, idxIn_getElem hnd hi]

theorem maskTrace_traceMask (W : Trace) : AgreeOn atoms h (maskTrace atoms (traceMask atoms h W)) W := by
  intro k hk a ha
  obtain ⟨i, hi, rfl⟩ := List.getElem_of_mem ha
  have hlt : k * atoms.length + i < atoms.length * (h + 1) :=
    calc k * atoms.length + i < (k + 1) * atoms.length := by
          rw [Nat.succ_mul]
          exact Nat.add_lt_add_left hi _
      _ ≤ atoms.length * (h + 1) := by
          rw [Nat.mul_comm]
          exact Nat.mul_le_mul_left _ (Nat.succ_le_succ hk)
  rw [maskTrace_bit atoms hnd _ k hi, traceMask, testBit_bitsNat, (bit_pos hi k).1, (bit_pos hi k).2]
  simp [hlt, hi]

theorem maskTrace_traceMask_eq (W : Trace) (hout : ∀ k, k ≤ h → ∀ a, a ∉ atoms → W k a = false) :
    TraceEq h (maskTrace atoms (traceMask atoms h W)) W := by
  intro k hk a
  by_cases ha : a ∈ atoms
  · exact maskTrace_traceMask atoms h hnd W k hk a ha
  · rw [maskTrace_notMem atoms _ k ha, hout k hk a ha]

theorem subMask_of_le {s m : Nat} (hs : s < 2 ^ (atoms.length * (h + 1)))
    (hle : ∀ k, k ≤ h → ∀ a ∈ atoms, maskTrace atoms s k a = true → maskTrace atoms m k a = true) : s &&& m = s := by
  apply Nat.eq_of_testBit_eq
  intro b
  rw [Nat.testBit_and]
  cases hsb : s.testBit b with
  | false => rfl
  | true =>
    -- a set bit of `s` lies below the bound, so it is the bit of an atom at a position
    have hb : b < atoms.length * (h + 1) :=
      (Nat.pow_lt_pow_iff_right (by omega)).mp (Nat.lt_of_le_of_lt (Nat.ge_two_pow_of_testBit hsb) hs)
    obtain ⟨k, i, hk, hi, rfl⟩ := bit_cases hb
    have := hle k hk atoms[i] (List.getElem_mem hi)
    rw [maskTrace_bit atoms hnd s k hi, maskTrace_bit atoms hnd m k hi] at this
    rw [this hsb, Bool.and_self]

end

/-! ### finite support of rules -/

def BLit.names : BLit → List String
  | .atom _ a _ => [a]
  | .init _ a => [a]
  | .tel _ f => SForm.names f
  | _ => []

def Head.names : Head → List String
  | .atom a _ => [a]
  | .disj as => as
  | .choice as => as
  | .nlit _ a _ => [a]
  | .tel f => SForm.names f
  | _ => []

/-- `&del` literals are outside the theorem (the enumerator handles them, the support lemma for `runs` is not proved) -/
def litRule : BLit → Bool
  | .del _ _ => false
  | _ => true

def headRule : Head → Bool := fun _ => true

/-- a rule of the rule fragment all of whose atoms are enumerated -/
def ruleOver (atoms : List String) (r : TRule) : Bool :=
  headRule r.head && r.body.all litRule && (Head.names r.head).all (atoms.contains ·) &&
    r.body.all fun l => (BLit.names l).all (atoms.contains ·)

section
variable (atoms : List String) (h : Nat)

variable {atoms h} in
theorem AgreeOn.atPos {W W' : Trace} (hW : AgreeOn atoms h W W') {a : String} (ha : a ∈ atoms) (j : Int) :
    atPos h W a j = atPos h W' a j :=
  atPos_congr Iff.rfl fun _ hj => hW j.toNat (Int.toNat_le.mpr hj) a ha

theorem lit_congr {W W' T T' : Trace} (hW : AgreeOn atoms h W W') (hT : AgreeOn atoms h T T') (k : Nat) (hk : k ≤ h)
    (l : BLit) (hl : litRule l = true) (hn : ∀ a ∈ BLit.names l, a ∈ atoms) :
    l.holds h W T k = l.holds h W' T' k := by
  cases l with
  | atom sg a sh =>
    have ha := hn a (List.mem_singleton_self a)
    simp only [BLit.holds, hW.atPos ha, hT.atPos ha]
  | init sg a =>
    have ha := hn a (List.mem_singleton_self a)
    simp only [BLit.holds, hW 0 (Nat.zero_le _) a ha, hT 0 (Nat.zero_le _) a ha]
  | kw sg w => rfl
  | tel sg f => simp only [BLit.holds, docSem, tht_congr_on atoms h f hn T T' T T' hT hT k hk]
  | del _ _ => cases hl

theorem head_congr {W W' T T' : Trace} (hW : AgreeOn atoms h W W') (hT : AgreeOn atoms h T T') (k : Nat) (hk : k ≤ h)
    (hd : Head) (hn : ∀ a ∈ Head.names hd, a ∈ atoms) :
    hd.holds h W T k = hd.holds h W' T' k := by
  cases hd with
  | atom a n => exact hW.atPos (hn a (List.mem_singleton_self a)) _
  | disj as => exact any_congr_mem fun a ha => hW k hk a (hn a ha)
  | choice as => exact all_congr_mem fun a ha => by rw [hW k hk a (hn a ha), hT k hk a (hn a ha)]
  | falsum => rfl
  | nlit sg a n =>
    have ha := hn a (List.mem_singleton_self a)
    simp only [Head.holds, hW.atPos ha, hT.atPos ha]
  | tel f => exact tht_congr_on atoms h f hn W W' T T' hW hT k hk

theorem sat_congr_on {W W' T T' : Trace} (hW : AgreeOn atoms h W W') (hT : AgreeOn atoms h T T') (r : TRule)
    (hr : ruleOver atoms r = true) : r.sat h W T = r.sat h W' T' := by
  simp only [ruleOver, Bool.and_eq_true, List.all_eq_true, List.contains_iff_mem] at hr
  obtain ⟨⟨⟨_, h2⟩, h3⟩, h4⟩ := hr
  exact sat_congr_pos (fun k hk l hl => lit_congr atoms h hW hT k hk l (h2 l hl) (h4 l hl))
    fun k hk => head_congr atoms h hW hT k hk r.head h3

end

/-! ### the here-trace alone

With the there-trace fixed no side condition on the rule is left: `lit_congr` and `head_congr` are taken at the names of
the literal resp. the head themselves, and a `&del` literal does not read the here-trace at all. -/

theorem lit_congr_here (h : Nat) {W W' : Trace} (T : Trace) (hW : TraceEq h W W') (k : Nat) (hk : k ≤ h) (l : BLit) :
    l.holds h W T k = l.holds h W' T k := by
  cases l with
  | del _ _ => rfl
  | _ => exact lit_congr (BLit.names _) h (fun j hj a _ => hW j hj a) (fun _ _ _ _ => rfl) k hk _ rfl fun _ ha => ha

theorem sat_congr_here (h : Nat) {W W' : Trace} (T : Trace) (hW : TraceEq h W W') (r : TRule) :
    r.sat h W T = r.sat h W' T :=
  sat_congr_pos (fun k hk l _ => lit_congr_here h T hW k hk l)
    fun k hk => head_congr (Head.names r.head) h (fun j hj a _ => hW j hj a) (fun _ _ _ _ => rfl) k hk r.head fun _ ha => ha

/-! ### the enumerator decides `TSM` -/

theorem mem_subMasks (m nb s : Nat) : s ∈ subMasks m nb ↔ s < m ∧ s &&& m = s := by
  simp [subMasks, List.mem_filter, List.mem_range]

theorem thtModel_iff (h : Nat) (P : TProg) (W T : Trace) :
    thtModel h P W T = true ↔ (∀ r ∈ P, r.sat h W T = true) ∧ (∀ r ∈ P, r.sat h T T = true) := by
  simp only [thtModel, List.all_eq_true, Bool.and_eq_true, forall_and]

theorem models_congr_on (atoms : List String) (h : Nat) {W W' T T' : Trace} (hW : AgreeOn atoms h W W')
    (hT : AgreeOn atoms h T T') (P : TProg) (hP : ∀ r ∈ P, ruleOver atoms r = true) :
    (∀ r ∈ P, r.sat h W T = true) ↔ ∀ r ∈ P, r.sat h W' T' = true :=
  forall₂_congr fun r hr => by rw [sat_congr_on atoms h hW hT r (hP r hr)]

theorem tsm_outside_false (atoms : List String) (h : Nat) (P : TProg) (hP : ∀ r ∈ P, ruleOver atoms r = true)
    (T : Trace) (hT : TSM h P T) : ∀ k, k ≤ h → ∀ a, a ∉ atoms → T k a = false := by
  intro k hk a ha
  -- `T` cut down to the enumerated atoms is a model with `T`
  let W : Trace := fun j b => if b ∈ atoms then T j b else false
  have hle : TraceLe h W T := by
    intro j _ b hb
    simp only [W] at hb
    split at hb
    · exact hb
    · cases hb
  have hag : AgreeOn atoms h W T := by
    intro j _ b hb
    simp [W, hb]
  have := hT.2 W hle ((models_congr_on atoms h hag (fun _ _ _ _ => rfl) P hP).mpr hT.1) k hk a
  simp only [W, ha, if_false] at this
  exact this.symm

section
variable (atoms : List String) (h : Nat) (P : TProg)
variable (hnd : atoms.Nodup)
include hnd

theorem isTSM_iff (m : Nat) (hm : m < 2 ^ (atoms.length * (h + 1))) :
    isTSM h atoms P m = true ↔
      (TSM h P (maskTrace atoms m) ∧ consistent h atoms (maskTrace atoms m) = true) := by
  simp only [isTSM, Bool.and_eq_true, List.all_eq_true, Bool.not_eq_true', mem_subMasks, thtModel_iff, TSM]
  constructor
  · rintro ⟨⟨⟨hTT, _⟩, hcons⟩, hmin⟩
    refine ⟨⟨hTT, fun W hle hW => ?_⟩, hcons⟩
    -- below the trace of `m`, `W` is false outside `atoms` as well
    have hfull : TraceEq h (maskTrace atoms (traceMask atoms h W)) W :=
      maskTrace_traceMask_eq atoms h hnd W fun k hk a ha => Bool.eq_false_iff.mpr fun hw =>
        Bool.false_ne_true ((maskTrace_notMem atoms m k ha).symm.trans (hle k hk a hw))
    -- that mask is a sub-mask of `m` whose trace is a model with that of `m`, so it is `m`
    have hsub : traceMask atoms h W &&& m = traceMask atoms h W :=
      subMask_of_le atoms h hnd (traceMask_lt atoms h W) fun k hk a _ hs => hle k hk a (hfull k hk a ▸ hs)
    have hsat : ∀ r ∈ P, r.sat h (maskTrace atoms (traceMask atoms h W)) (maskTrace atoms m) = true := fun r hr => by
      rw [sat_congr_here h _ hfull r]
      exact hW r hr
    have hsm : traceMask atoms h W = m := by
      rcases Nat.lt_or_eq_of_le (hsub ▸ Nat.and_le_right : traceMask atoms h W ≤ m) with hlt | he
      · cases (hmin _ ⟨hlt, hsub⟩).symm.trans ((thtModel_iff h P _ _).mpr ⟨hsat, hTT⟩)
      · exact he
    intro k hk a
    rw [← hfull k hk a, hsm]
  · rintro ⟨⟨hTT, hmin⟩, hcons⟩
    refine ⟨⟨⟨hTT, hTT⟩, hcons⟩, fun s ⟨hlt, hsub⟩ => Bool.eq_false_iff.mpr fun hmod => ?_⟩
    -- a proper sub-mask that is a model encodes, by minimality, the same trace: it is `m`
    have heq := hmin _ (fun k _ a => maskTrace_le atoms hsub k a) ((thtModel_iff h P _ _).mp hmod).1
    have : m &&& s = m := subMask_of_le atoms h hnd hm fun k hk a _ hs => (heq k hk a).symm ▸ hs
    rw [Nat.and_comm, hsub] at this
    exact Nat.ne_of_lt hlt this

variable (hP : ∀ r ∈ P, ruleOver atoms r = true)
include hP

set_option linter.unusedSectionVars false in
-- `hP` is not used here; completeness (`tsm_enumerated`) needs it, and the two are stated alike
theorem mem_tsmMasks (m : Nat) :
    m ∈ tsmMasks h atoms P ↔
      m < 2 ^ (atoms.length * (h + 1)) ∧ TSM h P (maskTrace atoms m) ∧ consistent h atoms (maskTrace atoms m) = true := by
  simp only [tsmMasks, List.mem_filter, List.mem_range]
  exact and_congr_right fun hm => isTSM_iff atoms h P hnd m hm

theorem tsm_enumerated (T : Trace) (hT : TSM h P T) (hc : consistent h atoms T = true) :
    traceMask atoms h T ∈ tsmMasks h atoms P ∧ TraceEq h (maskTrace atoms (traceMask atoms h T)) T := by
  let m := traceMask atoms h T
  have hag : AgreeOn atoms h (maskTrace atoms m) T := maskTrace_traceMask atoms h hnd T
  have heq : TraceEq h (maskTrace atoms m) T :=
    maskTrace_traceMask_eq atoms h hnd T (tsm_outside_false atoms h P hP T hT)
  have hTSM : TSM h P (maskTrace atoms m) := by
    refine ⟨(models_congr_on atoms h hag hag P hP).mpr hT.1, fun W hle hW k hk a => ?_⟩
    have hle' : TraceLe h W T := fun k hk a hw => heq k hk a ▸ hle k hk a hw
    rw [hT.2 W hle' ((models_congr_on atoms h (fun _ _ _ _ => rfl) hag P hP).mp hW) k hk a, heq k hk a]
  have hcons : consistent h atoms (maskTrace atoms m) = true := by
    simp only [consistent, allUpTo_iff, List.all_eq_true] at hc ⊢
    intro k hk a ha
    rw [heq k hk a, heq k hk (compl a)]
    exact hc k hk a ha
  exact ⟨(mem_tsmMasks atoms h P hnd hP m).mpr ⟨traceMask_lt atoms h T, hTSM, hcons⟩, heq⟩

end

end TelProofs
