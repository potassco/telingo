/-
Stable models of `GRule` programs (M1/M4 of DESIGN §5): a true atom is supported by a rule whose body holds
(`stable_supported_body`, taken from the generic development of Meta/DefExt.lean through `toRule`), and what it means to
satisfy the three small rule forms `G` holds besides the instances (`sat_fact`, `sat_bridge`, `sat_assumption`); what a
stable model does with a fact, an integrity constraint and a rule with one head atom (`stable_fact`, `stable_constraint`,
`stable_derive`).
-/
import TelModel.ASP
import TelProofs.Meta.DefExt

namespace TelProofs
open TelModel

def toRule (r : GRule) : DefExt.Rule GAtom := ⟨r.head, r.choice, r.pos, r.neg, r.nneg⟩

theorem stable_toRule {rs : List GRule} {T : Interp} : DefExt.Stable (rs.map toRule) T ↔ Stable rs T := by
  simp only [DefExt.Stable, Stable, List.forall_mem_map]
  rfl

theorem stable_supported_body {rs : List GRule} {T : Interp} (hs : Stable rs T) {a : GAtom} (ha : T a = true) :
    ∃ r ∈ rs, a ∈ r.head ∧ r.bodyHolds T T = true := by
  obtain ⟨r', hr', ha', hb⟩ := DefExt.stable_supported (stable_toRule.mpr hs) ha
  obtain ⟨r, hr, rfl⟩ := List.mem_map.mp hr'
  exact ⟨r, hr, ha', hb⟩

theorem sat_fact (H X : Interp) (a : GAtom) : ({ head := [a] } : GRule).sat H X = H a := by
  simp [GRule.sat, GRule.bodyHolds, GRule.headHolds]

theorem sat_bridge (H X : Interp) (a b : GAtom) : ({ head := [a], pos := [b] } : GRule).sat H X = (!(H b) || H a) := by
  simp [GRule.sat, GRule.bodyHolds, GRule.headHolds]

theorem sat_assumption (H X : Interp) (b : GAtom) : ({ head := [], pos := [b] } : GRule).sat H X = !(H b) := by
  simp [GRule.sat, GRule.bodyHolds, GRule.headHolds]

theorem stable_fact {rs : List GRule} {T : Interp} (hs : Stable rs T) {a : GAtom}
    (hf : ({ head := [a] } : GRule) ∈ rs) : T a = true :=
  sat_fact T T a ▸ hs.1 _ hf

theorem stable_constraint {rs : List GRule} {T : Interp} (hs : Stable rs T) (r : GRule) (hr : r ∈ rs)
    (hh : r.head = []) (hc : r.choice = false) : r.bodyHolds T T = false := by
  have := hs.1 r hr
  rwa [GRule.sat, GRule.headHolds, hh, hc, if_neg Bool.false_ne_true, List.any_nil, Bool.or_false, Bool.not_eq_true'] at this

theorem stable_derive {rs : List GRule} {T : Interp} (hs : Stable rs T) (r : GRule) (hr : r ∈ rs) (a : GAtom)
    (hh : r.head = [a]) (hc : r.choice = false) (hb : r.bodyHolds T T = true) : T a = true := by
  have := hs.1 r hr
  rwa [GRule.sat, hb, Bool.not_true, Bool.false_or, GRule.headHolds, hh, hc, if_neg Bool.false_ne_true, List.any_cons,
    List.any_nil, Bool.or_false] at this

end TelProofs
