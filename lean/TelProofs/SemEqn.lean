/-
The connectives of the one-step equations (`binExpr`, `telStep`): what they evaluate to and which pairs
they refer to (the value of an expression depends on the valuation at these pairs only, `eval_congr`); and `sem_eqn`:
at every state of the trace the semantics `BForm.sem` has the value its own one-step equation gives it, for every formula.
-/
import TelProofs.RunsLemmas

namespace TelProofs
open TelSpec TelModel

section
-- the default simp set tries `BEq.rfl` at every comparison of two string literals; unifying two different literals fails
-- slowly, and the instance `ReflBEq String` it asks for takes a long search
attribute [-simp] BEq.rfl

theorem binSem_and (a b : Bool) : binSem "&" a b = (a && b) := by simp [binSem]
theorem binSem_or (a b : Bool) : binSem "|" a b = (a || b) := by simp [binSem]
theorem binSem_limp (a b : Bool) : binSem "<-" a b = (a || !b) := by simp [binSem]
theorem binSem_rimp (a b : Bool) : binSem "->" a b = (!a || b) := by simp [binSem]
theorem binSem_equiv (a b : Bool) : binSem "<>" a b = (a == b) := by simp [binSem]
end

/-- `binExpr` and `binSem` are the same cascade over the operator string -/
theorem binExpr_eval (op : String) (a b : BExpr) (tr lv v) :
    (binExpr op a b).eval tr lv v = binSem op (a.eval tr lv v) (b.eval tr lv v) := by
  simp only [binExpr, binSem, apply_ite (BExpr.eval tr lv v), BExpr.eval]

theorem forall_refs_ref {Q : BForm × Nat → Prop} {f : BForm} {k : Nat} (hq : Q (f, k)) :
    ∀ p ∈ (BExpr.ref f k).refs, Q p :=
  List.forall_mem_singleton.2 hq

theorem forall_refs_ite {Q : BForm × Nat → Prop} {c : Prop} [Decidable c] {a b : BExpr}
    (ha : c → ∀ p ∈ a.refs, Q p) (hb : ¬c → ∀ p ∈ b.refs, Q p) : ∀ p ∈ (if c then a else b).refs, Q p := by
  split
  · next hc => exact ha hc
  · next hc => exact hb hc

theorem forall_refs_binExpr {Q : BForm × Nat → Prop} {op : String} {a b : BExpr}
    (ha : ∀ p ∈ a.refs, Q p) (hb : ∀ p ∈ b.refs, Q p) : ∀ p ∈ (binExpr op a b).refs, Q p := by
  have hab := List.forall_mem_append.2 ⟨ha, hb⟩
  -- each of the five operators refers to both arguments, any other string gives a constant
  unfold binExpr
  iterate 5 refine forall_refs_ite (fun _ => hab) fun _ => ?_
  exact fun _ hp => nomatch hp

theorem forall_refs_telStep {Q : BForm × Nat → Prop} {d : Bool} {l : Option BExpr} {r pre : BExpr}
    (hl : ∀ p ∈ l.elim [] BExpr.refs, Q p) (hr : ∀ p ∈ r.refs, Q p) (hpre : ∀ p ∈ pre.refs, Q p) :
    ∀ p ∈ (telStep d l r pre).refs, Q p := by
  cases l with
  | none => cases d <;> exact List.forall_mem_append.2 ⟨hr, hpre⟩
  | some e => cases d <;> exact List.forall_mem_append.2 ⟨hr, List.forall_mem_append.2 ⟨hl, hpre⟩⟩

theorem eval_congr {tr : Trace} {lv : Int → Bool} {v w : BForm → Nat → Bool} {e : BExpr}
    (hvw : ∀ p ∈ e.refs, v p.1 p.2 = w p.1 p.2) : e.eval tr lv v = e.eval tr lv w := by
  induction e with
  | const | atomAt | lit => rfl
  | ref f k => exact hvw (f, k) (List.mem_singleton.2 rfl)
  | not e ih => simp only [BExpr.eval, ih hvw]
  | and a b iha ihb | or a b iha ihb | iff a b iha ihb =>
    have := List.forall_mem_append.1 hvw
    simp only [BExpr.eval, iha this.1, ihb this.2]

section
variable {h : Nat} {tr : Trace} {lv : Int → Bool}

theorem sem_telN2 (d : Bool) (l r : BForm) (k : Nat) :
    (BForm.telN2 d l r).sem h tr lv k =
      if d then releaseB h (l.sem h tr lv) (r.sem h tr lv) k else untilB h (l.sem h tr lv) (r.sem h tr lv) k := by
  cases d <;> rfl

theorem sem_telN1 (d : Bool) (r : BForm) (k : Nat) :
    (BForm.telN1 d r).sem h tr lv k = if d then alFB h (r.sem h tr lv) k else evFB h (r.sem h tr lv) k := by
  cases d <;> rfl

theorem sem_dia (p : Path) (f : BForm) (k : Nat) :
    (BForm.dia p f).sem h tr lv k = diaR h (p.runs h tr) (f.sem h tr lv) k := rfl
theorem sem_box (p : Path) (f : BForm) (k : Nat) :
    (BForm.box p f).sem h tr lv k = boxR h (p.runs h tr) (f.sem h tr lv) k := rfl

theorem sem_bin (op : String) (l r : BForm) (k : Nat) :
    (BForm.bin op l r).sem h tr lv k = binSem op (l.sem h tr lv k) (r.sem h tr lv k) := rfl

theorem sem_toForm (t : PTest) (k : Nat) : t.toForm.sem h tr lv k = t.holds tr k := by
  cases t <;> rfl

theorem sem_final (k : Nat) : finalForm.sem h tr lv k = !decide (k + 1 ≤ h) := by
  show (!if k + 1 ≤ h then true else false) = _
  split <;> simp [*]

/-- `⟨p*⟩X` is written as `(final → X) ∧ (X ∨ ⟨p⟩⟨p*⟩X)`; the first conjunct is redundant where
    `⟨p⟩…` in the last state implies `X` -/
theorem dia_star_bool {fin x y : Bool} (hy : fin = true → y = true → x = true) :
    (x || y) = ((!fin || x) && (x || y)) := by
  cases x
  · cases y
    · simp
    · -- the one case in which the first conjunct says something
      cases fin
      · rfl
      · exact absurd (hy rfl rfl) Bool.false_ne_true
  · simp

/-- `[p*]X` is written as `(final → X) ∧ (X ∧ [p][p*]X)` -/
theorem box_star_bool {fin x y : Bool} : (x && y) = ((!fin || x) && (x && y)) := by
  cases x <;> simp

theorem sem_eqn {f : BForm} {k : Nat} (hk : k ≤ h) :
    f.sem h tr lv k = (eqn h f k).eval tr lv (BForm.sem h tr lv) := by
  cases f with
  | atom | numLit | const | neg | initially => rfl
  | bin op l r => exact (binExpr_eval op (.ref l k) (.ref r k) tr lv _).symm
  | prev g n w => exact (apply_ite (BExpr.eval tr lv (BForm.sem h tr lv)) (n ≤ k) (.ref g (k - n)) (.const w)).symm
  | next g n w => exact (apply_ite (BExpr.eval tr lv (BForm.sem h tr lv)) (k + n ≤ h) (.ref g (k + n)) (.const w)).symm
  -- `sem` of an inductive operator is by definition its `…B` function of the value sequences of the operands, and
  -- `eval` of `telStep` the right-hand side of the unfolding lemma of that function
  | telP2 d l r =>
    cases k with
    | zero =>
      cases d
      · exact sinceB_zero _ _
      · exact triggerB_zero _ _
    | succ k =>
      cases d
      · exact sinceB_succ _ _ k
      · exact triggerB_succ _ _ k
  | telP1 d r =>
    cases k with
    | zero =>
      cases d
      · exact evPB_zero _
      · exact alPB_zero _
    | succ k =>
      cases d
      · exact evPB_succ _ k
      · exact alPB_succ _ k
  | telN2 d l r =>
    cases d
    · exact untilB_unfold h _ _ k hk
    · exact releaseB_unfold h _ _ k hk
  | telN1 d r =>
    cases d
    · exact evFB_unfold h _ k hk
    · exact alFB_unfold h _ k hk
  | dia p X =>
    cases p with
    | skip => exact diaR_skip
    | check t =>
      rw [sem_dia, runs_check, diaR_check hk]
      show _ = (BForm.bin "&" t.toForm X).sem h tr lv k
      rw [sem_bin, binSem_and, sem_toForm]
    | choice l r =>
      rw [sem_dia, runs_choice, diaR_choice, Bool.or_comm]
      exact (binSem_or _ _).symm
    | seq l r =>
      rw [sem_dia, runs_seq, diaR_seq]
      rfl
    | star p =>
      have hb : Bounded h (p.runs h tr) := runs_bounded p
      rw [sem_dia, runs_star, diaR_star hb hk]
      show _ = (BForm.bin "&" (.bin "->" finalForm X) (.bin "|" X (.dia p (.dia (.star p) X)))).sem h tr lv k
      simp only [sem_bin, binSem_and, binSem_rimp, binSem_or]
      refine dia_star_bool fun hf hy => ?_
      -- in the last state every run ends in the last state
      rw [sem_final, Bool.not_eq_true', decide_eq_false_iff_not] at hf
      obtain rfl : k = h := Nat.le_antisymm hk (Nat.not_lt.mp hf)
      exact diaR_last (starRuns_bounded hb _) (diaR_last hb hy)
  | box p X =>
    cases p with
    | skip => exact boxR_skip
    | check t =>
      rw [sem_box, runs_check, boxR_check hk]
      show _ = (BForm.bin "->" t.toForm X).sem h tr lv k
      rw [sem_bin, binSem_rimp, sem_toForm]
    | choice l r =>
      rw [sem_box, runs_choice, boxR_choice, Bool.and_comm]
      exact (binSem_and _ _).symm
    | seq l r =>
      rw [sem_box, runs_seq, boxR_seq]
      rfl
    | star p =>
      rw [sem_box, runs_star, boxR_star (runs_bounded p) hk]
      show _ = (BForm.bin "&" (.bin "->" finalForm X) (.bin "&" X (.box p (.box (.star p) X)))).sem h tr lv k
      simp only [sem_bin, binSem_and, binSem_rimp]
      exact box_star_bool
end

end TelProofs
