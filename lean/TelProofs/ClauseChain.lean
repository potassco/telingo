/-
The clause level joined with `DefExt.conservative`.  A *clause definition* (`ClauseDef`) is a fresh atom with its choice
rule and a group of integrity constraints (`clauseRule`) that hold exactly when the atom has a value computed from the
other atoms (`WF`), or an external with a fixed value.  One such definition is a conservative extension
(`single_conservative`, through `good_iff`); conservative extensions compose (`Conservative.trans`); hence so is every
chain in which each fresh atom is new to the program and to the definitions before it, later ones free to use earlier
ones as the literals of sub-formulas are used by their super-formulas (`chain_conservative`).  The groups of
`theory/body.py` / `formula.py` are clause definitions: `boolDef`, `telDef`, `eqDef` (over arbitrary, also negative,
operand literals) and `placeholderDef`.
-/
import TelProofs.ClauseProofs
import TelProofs.Meta.DefExt

namespace TelProofs
open TelModel

/-- the conclusion of `DefExt.conservative`, named at `Nat` only -/
def Conservative (P E : List (DefExt.Rule Nat)) (N : Nat → Bool) : Prop :=
  (∀ X, DefExt.Stable (P ++ E) X → DefExt.Stable P (DefExt.cut N X)) ∧
  (∀ X0, DefExt.Stable P X0 → ∃ X, DefExt.Stable (P ++ E) X ∧ (∀ a, N a = false → X a = X0 a)) ∧
  (∀ X X', DefExt.Stable (P ++ E) X → DefExt.Stable (P ++ E) X' → (∀ a, N a = false → X a = X' a) → ∀ a, X a = X' a)

theorem Conservative.nil (P : List (DefExt.Rule Nat)) : Conservative P [] (fun _ => false) := by
  refine ⟨?_, ?_, ?_⟩
  · intro X hs
    have : DefExt.cut (fun _ => false) X = X := funext fun a => DefExt.cut_old _ X rfl
    rw [this]
    rwa [List.append_nil] at hs
  · intro X0 hs
    exact ⟨X0, by rwa [List.append_nil], fun _ _ => rfl⟩
  · intro X X' _ _ hag a
    exact hag a rfl

theorem Conservative.trans {P E1 E2 : List (DefExt.Rule Nat)} {N1 N2 : Nat → Bool}
    (h1 : Conservative P E1 N1) (h2 : Conservative (P ++ E1) E2 N2) :
    Conservative P (E1 ++ E2) (fun a => N1 a || N2 a) := by
  obtain ⟨c1, e1, u1⟩ := h1
  obtain ⟨c2, e2, u2⟩ := h2
  refine ⟨?_, ?_, ?_⟩
  · intro X hs
    rw [← List.append_assoc] at hs
    rw [← DefExt.cut_cut]
    exact c1 _ (c2 X hs)
  · intro X0 hs
    obtain ⟨X1, hs1, hag1⟩ := e1 X0 hs
    obtain ⟨X2, hs2, hag2⟩ := e2 X1 hs1
    refine ⟨X2, by rwa [← List.append_assoc], fun a ha => ?_⟩
    obtain ⟨ha1, ha2⟩ := Bool.or_eq_false_iff.mp ha
    rw [hag2 a ha2, hag1 a ha1]
  · intro X X' hs hs' hag
    rw [← List.append_assoc] at hs hs'
    -- the cuts by `N2` are stable models of `P ++ E1` that agree off `N1`, so they are equal
    have hall := u1 _ _ (c2 X hs) (c2 X' hs') fun a ha1 => by
      cases ha2 : N2 a
      · rw [DefExt.cut_old N2 X ha2, DefExt.cut_old N2 X' ha2, hag a (Bool.or_eq_false_iff.mpr ⟨ha1, ha2⟩)]
      · rw [DefExt.cut_fresh N2 X ha2, DefExt.cut_fresh N2 X' ha2]
    refine u2 X X' hs hs' fun a ha2 => ?_
    rw [← DefExt.cut_old N2 X ha2, hall a, DefExt.cut_old N2 X' ha2]

/-! ### integrity constraints as rules -/

/-- atoms are the positive literal numbers -/
def clauseRule (c : Clause) : DefExt.Rule Nat :=
  { head := [], pos := (c.filter (· > 0)).map Int.toNat, neg := (c.filter (fun l => !(l > 0))).map (fun l => (-l).toNat) }

theorem clauseRule_sat (Y : Nat → Bool) (c : Clause) : (clauseRule c).sat Y Y = Clause.ok Y c := by
  simp only [DefExt.Rule.sat, DefExt.Rule.headHolds, clauseRule, Bool.false_eq_true, if_false, List.any_nil, Bool.or_false,
    DefExt.Rule.bodyHolds, List.all_nil, Bool.and_true, Clause.ok]
  -- both sides negate "all literals hold": the rule body has them sorted into the positive and the negative ones
  congr 1
  induction c with
  | nil => rfl
  | cons l ls ih =>
    rw [List.all_cons, ← ih, litTrue, List.filter_cons, List.filter_cons]
    by_cases hl : l > 0
    · simp only [hl, decide_true, if_true, Bool.not_true, Bool.false_eq_true, if_false, List.map_cons, List.all_cons,
        Bool.and_assoc]
    · simp only [hl, decide_false, if_true, Bool.not_false, Bool.false_eq_true, if_false, List.map_cons, List.all_cons]
      exact Bool.and_left_comm ..

theorem clauseRule_atoms (c : Clause) (x : Nat) (hx : x ∈ (clauseRule c).atoms) : ∃ l ∈ c, l.natAbs = x := by
  simp only [DefExt.mem_atoms, clauseRule, List.not_mem_nil, false_or, or_false, List.mem_map, List.mem_filter] at hx
  rcases hx with ⟨l, ⟨hl, hpos⟩, rfl⟩ | ⟨l, ⟨hl, hneg⟩, rfl⟩
  · have h : l > 0 := of_decide_eq_true hpos
    exact ⟨l, hl, (toNat_of_pos h).symm⟩
  · have h : ¬ l > 0 := of_decide_eq_false ((Bool.not_eq_true' _).mp hneg)
    exact ⟨l, hl, (toNat_neg_of_not_pos h).symm⟩

/-! ### one clause definition -/

/-- the fresh atom is free (a choice, or an external set free) and the constraints determine it, or it is an external with
    a fixed truth value (the placeholder of a `>` whose target lies beyond the horizon: true for the weak operator) -/
inductive DefKind where
  | free
  | fixed (b : Bool)
  deriving Repr, DecidableEq

/-- a fresh atom `v`, the integrity constraints written for it and the value they force on it -/
structure ClauseDef where
  v : Nat
  cs : List Clause
  f : (Nat → Bool) → Bool
  kind : DefKind := .free

/-- what the solver holds: the choice on `v` and the constraints; for a fixed external a fact or nothing -/
def ClauseDef.rules (d : ClauseDef) : List (DefExt.Rule Nat) :=
  match d.kind with
  | .free => { head := [d.v], choice := true } :: d.cs.map clauseRule
  | .fixed true => [{ head := [d.v] }]
  | .fixed false => []

def ClauseDef.WF (d : ClauseDef) : Prop :=
  0 < d.v ∧ (∀ Y Y' : Nat → Bool, (∀ x, x ≠ d.v → Y x = Y' x) → d.f Y = d.f Y') ∧
  match d.kind with
  | .free => ∀ Y : Nat → Bool, clausesOk Y d.cs = (Y d.v == d.f Y)
  | .fixed b => d.cs = [] ∧ d.f = fun _ => b

theorem ClauseDef.mem_rules {d : ClauseDef} {r : DefExt.Rule Nat} (hr : r ∈ d.rules) :
    r = { head := [d.v], choice := true } ∨ (∃ c ∈ d.cs, r = clauseRule c) ∨ r = { head := [d.v] } := by
  unfold ClauseDef.rules at hr
  split at hr
  · rcases List.mem_cons.mp hr with rfl | hr
    · exact .inl rfl
    · obtain ⟨c, hc, rfl⟩ := List.mem_map.mp hr
      exact .inr (.inl ⟨c, hc, rfl⟩)
  · exact .inr (.inr (List.mem_singleton.mp hr))
  · cases hr

theorem ClauseDef.rules_shape (d : ClauseDef) : ∀ r ∈ d.rules, DefExt.EShape (fun n => n == d.v) r := by
  intro r hr
  rcases d.mem_rules hr with rfl | ⟨c, _, rfl⟩ | rfl
  · exact .inl ⟨rfl, rfl, rfl, rfl, fun a ha => beq_iff_eq.mpr (List.mem_singleton.mp ha)⟩
  · exact .inr (.inl ⟨rfl, rfl⟩)
  · exact .inr (.inr ⟨rfl, rfl, d.v, rfl, beq_self_eq_true _⟩)

/-- the extension is good exactly when `v` has its value: the choice rule (or the fact) supports `v`, the constraints
    say the rest; a fixed-false external has no rule, so `v` is unsupported -/
theorem ClauseDef.good_iff {d : ClauseDef} (hwf : d.WF) (Y : Nat → Bool) :
    DefExt.Good d.rules (fun n => n == d.v) Y ↔ Y d.v = d.f Y := by
  obtain ⟨v, cs, f, kind⟩ := d
  obtain ⟨_, _, hcs⟩ := hwf
  cases kind with
  | free =>
    have hsat : (∀ r ∈ ClauseDef.rules ⟨v, cs, f, .free⟩, r.sat Y Y = true) ↔ Y v = f Y := by
      have hchoice : DefExt.Rule.sat { head := [v], choice := true } Y Y = true := by
        simp [DefExt.Rule.sat, DefExt.Rule.headHolds]
      simp only [ClauseDef.rules, List.forall_mem_cons, hchoice, true_and, List.forall_mem_map, clauseRule_sat]
      rw [← beq_iff_eq, ← hcs Y, clausesOk, List.all_eq_true]
    refine ⟨fun h => hsat.mp h.1, fun h => ⟨hsat.mpr h, fun n hn _ => ?_⟩⟩
    exact ⟨_, List.mem_cons_self, List.mem_singleton.mpr (beq_iff_eq.mp hn), rfl⟩
  | fixed b =>
    obtain ⟨rfl, rfl⟩ := hcs
    cases b with
    | true =>
      have hsat : DefExt.Rule.sat { head := [v] } Y Y = Y v := by
        simp [DefExt.Rule.sat, DefExt.Rule.bodyHolds, DefExt.Rule.headHolds]
      refine ⟨fun h => hsat ▸ h.1 _ List.mem_cons_self, fun h => ⟨fun r hr => ?_, fun n hn _ => ?_⟩⟩
      · rw [List.mem_singleton.mp hr, hsat]
        exact h
      · exact ⟨_, List.mem_cons_self, List.mem_singleton.mpr (beq_iff_eq.mp hn), rfl⟩
    | false =>
      refine ⟨fun h => Bool.eq_false_iff.mpr fun hv => ?_, fun h => ⟨fun _ hr => (nomatch hr), fun n hn hY => ?_⟩⟩
      · obtain ⟨_, hr, _⟩ := h.2 v (beq_self_eq_true v) hv
        cases hr
      · rw [beq_iff_eq.mp hn, h] at hY
        cases hY

theorem single_conservative (P : List (DefExt.Rule Nat)) (d : ClauseDef) (hwf : d.WF)
    (hP : ∀ r ∈ P, ∀ x ∈ r.atoms, (x == d.v) = false) :
    Conservative P d.rules (fun n => n == d.v) :=
  -- `det_of_value` for the value `d.f Y` of the one fresh atom: it does not read `d.v` (second part of `WF`), and
  -- `good_iff` says that the rules pin `d.v` to it
  DefExt.conservative P _ _ hP d.rules_shape <| DefExt.det_of_value (fun Y _ => d.f Y)
    (fun Y Y' hag _ => hwf.2.1 Y Y' fun x hx => hag x (beq_eq_false_iff_ne.mpr hx))
    fun Y => (d.good_iff hwf Y).trans ⟨fun h _ hn => beq_iff_eq.mp hn ▸ h, fun h => h d.v (beq_self_eq_true _)⟩

/-! ### chains -/

def chainRules (ds : List ClauseDef) : List (DefExt.Rule Nat) := ds.flatMap ClauseDef.rules

/-- `d'` is new to `d`: its atom is neither `d`'s atom nor used in `d`'s constraints -/
def ClauseDef.NewTo (d d' : ClauseDef) : Prop := d'.v ≠ d.v ∧ ∀ c ∈ d.cs, ∀ l ∈ c, l.natAbs ≠ d'.v

theorem rules_fresh (d d' : ClauseDef) (h : d.NewTo d') : ∀ r ∈ d.rules, ∀ x ∈ r.atoms, (x == d'.v) = false := by
  intro r hr
  have hv : ∀ x ∈ [d.v], (x == d'.v) = false := fun x hx =>
    beq_eq_false_iff_ne.mpr (List.mem_singleton.mp hx ▸ h.1.symm)
  rcases d.mem_rules hr with rfl | ⟨c, hc, rfl⟩ | rfl
  · exact DefExt.forall_mem_atoms.mpr ⟨hv, nofun, nofun, nofun⟩
  · intro x hx
    obtain ⟨l, hl, rfl⟩ := clauseRule_atoms c x hx
    exact beq_eq_false_iff_ne.mpr (h.2 c hc l hl)
  · exact DefExt.forall_mem_atoms.mpr ⟨hv, nofun, nofun, nofun⟩

theorem chain_conservative (ds : List ClauseDef) :
    ∀ (P : List (DefExt.Rule Nat)), (∀ d ∈ ds, d.WF) →
      (∀ d ∈ ds, ∀ r ∈ P, ∀ x ∈ r.atoms, (x == d.v) = false) →
      ds.Pairwise ClauseDef.NewTo →
      Conservative P (chainRules ds) (fun n => ds.any (fun d => n == d.v)) := by
  induction ds with
  | nil =>
    intro P _ _ _
    exact Conservative.nil P
  | cons d ds ih =>
    intro P hwf hP hpw
    have h1 := single_conservative P d (hwf d List.mem_cons_self) (hP d List.mem_cons_self)
    rw [List.pairwise_cons] at hpw
    have h2 := ih (P ++ d.rules) (fun d' hd' => hwf d' (List.mem_cons_of_mem _ hd'))
      (fun d' hd' r hr x hx => by
        rcases List.mem_append.mp hr with hrP | hrd
        · exact hP d' (List.mem_cons_of_mem _ hd') r hrP x hx
        · exact rules_fresh d d' (hpw.1 d' hd') r hrd x hx)
      hpw.2
    exact Conservative.trans h1 h2

/-! ### the groups of the body translation -/

/-- `BooleanFormula.do_translate`: the literal `v` of `a op b` for operand literals `a`, `b` -/
def boolDef (op : String) (v : Nat) (a b : Int) : ClauseDef :=
  { v := v, cs := boolClauses op (v : Int) a b, f := fun Y => boolVal op (litTrue Y a) (litTrue Y b) }

/-- `(boolDef op v a b).rules` for two program atoms, written out: `C13.bool_definition_conservative` is stated with
    this list and proved for `boolDef` -/
def boolDefinition (op : String) (v a b : Nat) : List (DefExt.Rule Nat) :=
  { head := [v], choice := true } :: (boolClauses op (v : Int) (a : Int) (b : Int)).map clauseRule

theorem boolDef_wf (op : String) (v : Nat) (a b : Int) (hv : 0 < v) (ha : a ≠ 0) (hb : b ≠ 0)
    (hva : a.natAbs ≠ v) (hvb : b.natAbs ≠ v)
    (hop : op = "&" ∨ op = "|" ∨ op = "<-" ∨ op = "->" ∨ op = "<>") : (boolDef op v a b).WF := by
  refine ⟨hv, fun Y Y' hag => ?_, fun Y => ?_⟩
  · show boolVal op (litTrue Y a) (litTrue Y b) = boolVal op (litTrue Y' a) (litTrue Y' b)
    rw [litTrue_congr Y Y' a (hag _ hva), litTrue_congr Y Y' b (hag _ hvb)]
  · have := boolClauses_ok Y op (v : Int) a b (Int.natCast_ne_zero.mpr (Nat.ne_of_gt hv)) ha hb hop
    rwa [litTrue_nat Y v hv] at this

/-- `TelFormula._translate`: the literal `v` of one induction step -/
def telDef (dual : Bool) (v : Nat) (lhs : Option Int) (rhs pre : Int) : ClauseDef :=
  { v := v, cs := telClauses dual (v : Int) lhs rhs pre,
    f := fun Y => telVal dual (lhs.map (litTrue Y)) (litTrue Y rhs) (litTrue Y pre) }

theorem telDef_wf (dual : Bool) (v : Nat) (lhs : Option Int) (rhs pre : Int) (hv : 0 < v)
    (hl : ∀ l, lhs = some l → l ≠ 0 ∧ l.natAbs ≠ v) (hr : rhs ≠ 0) (hp : pre ≠ 0)
    (hvr : rhs.natAbs ≠ v) (hvp : pre.natAbs ≠ v) : (telDef dual v lhs rhs pre).WF := by
  refine ⟨hv, fun Y Y' hag => ?_, fun Y => ?_⟩
  · show telVal dual (lhs.map (litTrue Y)) (litTrue Y rhs) (litTrue Y pre) =
      telVal dual (lhs.map (litTrue Y')) (litTrue Y' rhs) (litTrue Y' pre)
    rw [Option.map_congr fun l h => litTrue_congr Y Y' l (hag _ (hl l h).2), litTrue_congr Y Y' rhs (hag _ hvr),
      litTrue_congr Y Y' pre (hag _ hvp)]
  · have := telClauses_ok Y dual (v : Int) lhs rhs pre (Int.natCast_ne_zero.mpr (Nat.ne_of_gt hv)) (fun l h => (hl l h).1) hr hp
    rwa [litTrue_nat Y v hv] at this

/-- `make_equal`: the atom `v` (a theory atom of a rule body, free in the ground program) made equivalent to literal `b` -/
def eqDef (v : Nat) (b : Int) : ClauseDef :=
  { v := v, cs := makeEqual (v : Int) b, f := fun Y => litTrue Y b }

theorem eqDef_wf (v : Nat) (b : Int) (hv : 0 < v) (hb : b ≠ 0) (hvb : b.natAbs ≠ v) : (eqDef v b).WF := by
  refine ⟨hv, fun Y Y' hag => litTrue_congr Y Y' b (hag _ hvb), fun Y => ?_⟩
  have := makeEqual_ok Y (v : Int) b (Int.natCast_ne_zero.mpr (Nat.ne_of_gt hv)) hb
  rwa [litTrue_nat Y v hv] at this

/-- `Next.do_translate` beyond the horizon: the placeholder is an external with the truth value of the weak / strong
    operator at the end of the trace -/
def placeholderDef (v : Nat) (weak : Bool) : ClauseDef :=
  { v := v, cs := [], f := fun _ => weak, kind := .fixed weak }

theorem placeholderDef_wf (v : Nat) (weak : Bool) (hv : 0 < v) : (placeholderDef v weak).WF :=
  ⟨hv, fun _ _ _ => rfl, rfl, rfl⟩

/-! ### non-vacuity: `{a}.` then `v2 := a | ¬a`, the placeholder `5` of a weak next beyond the horizon, `v3 := v2 & 5`,
    theory atom `4 ≡ v3` -/

def exChain : List ClauseDef := [boolDef "|" 2 1 (-1), placeholderDef 5 true, boolDef "&" 3 2 5, eqDef 4 3]

theorem exChain_conservative :
    Conservative [{ head := [1], choice := true }] (chainRules exChain) (fun n => exChain.any (fun d => n == d.v)) := by
  apply chain_conservative
  · intro d hd
    simp only [exChain, List.mem_cons, List.not_mem_nil, or_false] at hd
    rcases hd with rfl | rfl | rfl | rfl
    · exact boolDef_wf _ _ _ _ (by decide) (by decide) (by decide) (by decide) (by decide) (.inr (.inl rfl))
    · exact placeholderDef_wf _ _ (by decide)
    · exact boolDef_wf _ _ _ _ (by decide) (by decide) (by decide) (by decide) (by decide) (.inl rfl)
    · exact eqDef_wf _ _ (by decide) (by decide) (by decide)
  · decide
  · unfold ClauseDef.NewTo
    decide

end TelProofs
