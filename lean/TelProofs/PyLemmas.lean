/-
The `Py` monad under rewriting (`ok_bind`, `bind_eq_ok`, …), the Python connectives and attribute reads of `TelModel.Py` on
values (`pyOr_ok`, `retAttr_sat`, …), and `NoInternal`, "a value or a RuntimeError", with the rules that decide it from the
shape of a program (simp set `noint`).
-/
import TelModel.Py
import TelProofs.NoIntAttr
namespace TelProofs
open TelModel

@[simp] theorem ok_bind {α β} (a : α) (f : α → Py β) : (Except.ok a >>= f) = f a := rfl
@[simp] theorem err_bind {α β} (e : PyErr) (f : α → Py β) : ((Except.error e : Py α) >>= f) = Except.error e := rfl
@[simp] theorem ok_map {α β} (a : α) (f : α → β) : f <$> (Except.ok a : Py α) = Except.ok (f a) := rfl
@[simp] theorem py_pure {α} (a : α) : (pure a : Py α) = Except.ok a := rfl
@[simp] theorem py_throw {α} (e : PyErr) : (throw e : Py α) = Except.error e := rfl

theorem bind_eq_ok {α β} {x : Py α} {f : α → Py β} {b : β} : (x >>= f) = .ok b ↔ ∃ a, x = .ok a ∧ f a = .ok b := by
  cases x <;> simp

theorem ite_error_eq_ok {α} {c : Prop} [Decidable c] {e : PyErr} {x : Py α} {r : α} :
    (if c then .error e else x) = .ok r ↔ ¬c ∧ x = .ok r := by
  split <;> simp [*]

theorem map_eq {α β} (f : α → β) (x : Py α) : x.map f = f <$> x := rfl

@[simp] theorem pure_ok {α} (a : α) : (pure a : Py α) = .ok a := py_pure a
@[simp] theorem pyOr_ok (a : Bool) (b : Py Bool) : pyOr (.ok a) b = if a then .ok true else b := by
  cases a <;> rfl
@[simp] theorem pyAnd_ok (a : Bool) (b : Py Bool) : pyAnd (.ok a) b = if a then b else .ok false := by
  cases a <;> rfl
@[simp] theorem pyNot_ok (a : Bool) : pyNot (.ok a) = .ok (!a) := rfl
@[simp] theorem pyLtOpt_some (x m : Int) : pyLtOpt x (some m) = .ok (decide (x < m)) := rfl
/- `simp` selects the case of the attribute name; `rfl` alone would evaluate the comparisons of the strings. -/
@[simp] theorem retAttr_sat (r : SolveResult) : retAttr (some r) "satisfiable" = .ok (r == .sat) := by
  simp only [retAttr, TelSpec.SolveResult.attr]
  rfl
@[simp] theorem retAttr_unsat (r : SolveResult) : retAttr (some r) "unsatisfiable" = .ok (r == .unsat) := by
  simp only [retAttr, TelSpec.SolveResult.attr]
  rfl
@[simp] theorem retAttr_unknown (r : SolveResult) : retAttr (some r) "unknown" = .ok (r == .unknown) := by
  simp only [retAttr, TelSpec.SolveResult.attr]
  rfl

theorem pyAnd_ok_ok (a b : Bool) : pyAnd (.ok a) (.ok b) = .ok (a && b) := by cases a <;> rfl
theorem pyOr_ok_ok (a b : Bool) : pyOr (.ok a) (.ok b) = .ok (a || b) := by
  rw [pyOr_ok]
  cases a <;> rfl

def NoInternal {α} (r : Py α) : Prop := ∀ e, r = .error e → e.isInternal = false

@[noint] theorem noInternal_ok {α} {a : α} : NoInternal (.ok a : Py α) := nofun

@[noint] theorem noInternal_error {α} {e : PyErr} : NoInternal (.error e : Py α) ↔ e.isInternal = false :=
  ⟨fun h => h e rfl, fun h _ he => Except.error.inj he ▸ h⟩

theorem noInternal_runtime {α} {m : String} : NoInternal (.error (.runtime m) : Py α) := noInternal_error.2 rfl

/- `pure` and `throw` under `NoInternal`, so that `simp only [noint]` rewrites nothing inside the program (rewriting the
branches of its conditionals makes `simp` look into their string comparisons) -/
@[noint] theorem noInternal_pure {α} {a : α} : NoInternal (pure a : Py α) := noInternal_ok

@[noint] theorem noInternal_throw {α} {e : PyErr} : NoInternal (throw e : Py α) ↔ e.isInternal = false := noInternal_error

attribute [noint] PyErr.isInternal Bool.true_eq_false

@[noint] theorem noInternal_bind_iff {α β} (x : Py α) (f : α → Py β) :
    NoInternal (x >>= f) ↔ NoInternal x ∧ ∀ a, x = .ok a → NoInternal (f a) := by
  cases x with
  | error e =>
    rw [err_bind, noInternal_error, noInternal_error]
    exact ⟨fun h => ⟨h, nofun⟩, And.left⟩
  | ok a =>
    rw [ok_bind]
    exact ⟨fun h => ⟨noInternal_ok, fun b hb => Except.ok.inj hb ▸ h⟩, fun h => h.2 a rfl⟩

@[noint] theorem noInternal_ite_iff {α} (c : Prop) [Decidable c] (x y : Py α) :
    NoInternal (if c then x else y) ↔ (c → NoInternal x) ∧ (¬c → NoInternal y) := by
  by_cases h : c
  · rw [if_pos h]
    exact ⟨fun hx => ⟨fun _ => hx, fun hn => absurd h hn⟩, fun hh => hh.1 h⟩
  · rw [if_neg h]
    exact ⟨fun hy => ⟨fun hc => absurd hc h, fun _ => hy⟩, fun hh => hh.2 h⟩

attribute [noint] implies_true and_true true_and false_implies

theorem noInternal_bind {α β} {x : Py α} {f : α → Py β} (hx : NoInternal x) (hf : ∀ a, x = .ok a → NoInternal (f a)) :
    NoInternal (x >>= f) := (noInternal_bind_iff x f).2 ⟨hx, hf⟩

theorem noInternal_ite {α} (c : Prop) [Decidable c] (x y : Py α) (hx : NoInternal x) (hy : NoInternal y) :
    NoInternal (if c then x else y) := (noInternal_ite_iff c x y).2 ⟨fun _ => hx, fun _ => hy⟩

theorem noInternal_mapM {α β} {f : α → Py β} {l : List α} (h : ∀ x ∈ l, NoInternal (f x)) : NoInternal (l.mapM f) := by
  induction l with
  | nil => exact noInternal_ok
  | cons x xs ih =>
    simp only [List.mapM_cons, noint, h x List.mem_cons_self, ih fun z hz => h z (List.mem_cons_of_mem _ hz)]

end TelProofs
