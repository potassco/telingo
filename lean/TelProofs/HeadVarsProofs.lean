/-
The auxiliary atom of a head formula carries exactly the variables of the formula, each once, in the order of their names
(`mem_getVariables`, `getVariables_sorted`; hence `getVariables_set`): two ground instances of the rule with the same
auxiliary atom have the same head formula (`aux_identifies_instance`).
-/
import TelModel.HeadVars
import TelProofs.ListLemmas

namespace TelProofs
open TelModel

theorem mem_insertU (a x : String) (l : List String) : a ∈ insertU x l ↔ a = x ∨ a ∈ l := by
  -- the cases of `insertU x (y :: ys)`: `[]`; `x == y`; `x < y`; neither (insert into `ys`)
  fun_induction insertU x l with
  | case1 => simp only [List.mem_singleton, List.not_mem_nil, or_false]
  | case2 y ys h => rw [eq_of_beq h, List.mem_cons, ← or_assoc, or_self]
  | case3 y ys _ _ => exact List.mem_cons
  | case4 y ys _ _ ih => rw [List.mem_cons, ih, List.mem_cons, or_left_comm]

theorem mem_getVariables (t : HTerm) (x : String) : x ∈ getVariables t ↔ x ∈ t.varsOf :=
  (mem_foldl_keys (key := fun r x => x = r) (fun acc r x => (mem_insertU x r acc).trans or_comm) x t.varsOf []).trans
    (by simp only [List.not_mem_nil, false_or, exists_eq_right'])

theorem insertU_sorted (x : String) (l : List String) (h : l.Pairwise (· < ·)) : (insertU x l).Pairwise (· < ·) := by
  fun_induction insertU x l with
  | case1 => exact List.pairwise_singleton _ _
  | case2 y ys _ => exact h
  | case3 y ys _ hlt =>
    exact List.pairwise_cons.mpr ⟨List.forall_mem_cons.mpr
      ⟨hlt, fun z hz => String.lt_trans hlt ((List.pairwise_cons.mp h).1 z hz)⟩, h⟩
  | case4 y ys hne hlt ih =>
    rw [List.pairwise_cons] at h ⊢
    have hyx : y < x := Std.lt_of_le_of_ne (String.not_lt.mp hlt) (fun e => hne (e ▸ beq_self_eq_true x))
    exact ⟨fun z hz => ((mem_insertU z x ys).mp hz).elim (· ▸ hyx) (h.1 z), ih h.2⟩

theorem getVariables_sorted (t : HTerm) : (getVariables t).Pairwise (· < ·) :=
  List.foldlRecOn _ _ List.Pairwise.nil (fun acc h x _ => insertU_sorted x acc h)

theorem getVariables_set (t t' : HTerm) (h : ∀ x, x ∈ t.varsOf ↔ x ∈ t'.varsOf) : getVariables t = getVariables t' := by
  have nodup (u : HTerm) : (getVariables u).Nodup := (getVariables_sorted u).imp String.ne_of_lt
  -- strictly increasing lists with the same members: permutations of each other, and sorted alike
  refine List.Perm.eq_of_pairwise (fun a b _ _ h1 h2 => absurd h2 (String.lt_asymm h1))
    (getVariables_sorted t) (getVariables_sorted t') ((List.perm_ext_iff_of_nodup (nodup t) (nodup t')).mpr ?_)
  intro x
  rw [mem_getVariables, mem_getVariables]
  exact h x

mutual
theorem hsubst_congr (σ σ' : String → HTerm) : ∀ t : HTerm, (∀ x ∈ t.varsOf, σ x = σ' x) → t.subst σ = t.subst σ'
  | .num _ | .sym _ => fun _ => rfl
  | .var x => fun h => h x (List.mem_singleton.mpr rfl)
  | .fn name args => fun h => congrArg (HTerm.fn name) (hsubstL_congr σ σ' args h)
  | .tuple args => fun h => congrArg HTerm.tuple (hsubstL_congr σ σ' args h)
  | .seq args => fun h => congrArg HTerm.seq (hsubstL_congr σ σ' args h)
theorem hsubstL_congr (σ σ' : String → HTerm) : ∀ ts : List HTerm, (∀ x ∈ HTerm.varsOfL ts, σ x = σ' x) →
    HTerm.substL σ ts = HTerm.substL σ' ts
  | [] => fun _ => rfl
  | t :: ts => fun h => by
    rw [HTerm.substL, HTerm.substL, hsubst_congr σ σ' t (fun x hx => h x (List.mem_append_left _ hx)),
      hsubstL_congr σ σ' ts (fun x hx => h x (List.mem_append_right _ hx))]
end

theorem aux_identifies_instance (t : HTerm) (σ σ' : String → HTerm)
    (h : (getVariables t).map σ = (getVariables t).map σ') : t.subst σ = t.subst σ' :=
  hsubst_congr σ σ' t (fun x hx => List.map_inj_left.mp h x ((mem_getVariables t x).mpr hx))

end TelProofs
