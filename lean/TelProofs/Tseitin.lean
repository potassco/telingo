/-
A valuation of (formula, step) pairs that solves the one-step equations `eqn` on a closed set of pairs coincides
there with `BForm.sem`, for every formula whose iterations are all over step-consuming paths (`sys_unique`;
`tel_unique` for C03, `del_unique` for C05).  That the semantics is itself a solution is stated for the formulas without
modalities only (`sem_sys`, on the pairs with `isTel` within the horizon).

By `sem_eqn` a solution is the semantics at a pair once it is at the pairs the equation of that pair refers to
(`Sys.eq_sem`); the rest is induction along these references: on the formula, for the past operators on the state,
for the future operators and for iteration downwards from the end of the trace.  Where an equation refers to a
formula that is no sub-formula (a future operator to itself under a `next`, a modality to the combination `expand`
builds), no induction hypothesis speaks of that pair: it is resolved through its own equation (`Sys.next_eq_sem`,
`bin_eq_sem`, `modal_eq_sem`) until sub-formulas, or the formula itself at a later state, are reached.
-/
import TelProofs.SemEqn

namespace TelProofs
open TelSpec TelModel

def isTel : BForm → Bool
  | .atom _ _ _ => true
  | .numLit _ => true
  | .const _ => true
  | .neg f => isTel f
  | .bin _ l r => isTel l && isTel r
  | .prev f _ _ => isTel f
  | .initially f => isTel f
  | .next f _ _ => isTel f
  | .telP2 _ l r => isTel l && isTel r
  | .telP1 _ r => isTel r
  | .telN2 _ l r => isTel l && isTel r
  | .telN1 _ r => isTel r
  | .dia _ _ => false
  | .box _ _ => false

/-- every run of the path consumes at least one state -/
def pconsumes : Path → Bool
  | .skip => true
  | .check _ => false
  | .choice l r => pconsumes l && pconsumes r
  | .seq l r => pconsumes l || pconsumes r
  | .star _ => false

/-- the documented normal form: iteration only over step-consuming paths -/
def pnormal : Path → Bool
  | .skip => true
  | .check _ => true
  | .choice l r => pnormal l && pnormal r
  | .seq l r => pnormal l && pnormal r
  | .star p => pnormal p && pconsumes p

def pathsNormal : BForm → Bool
  | .neg f | .prev f _ _ | .initially f | .next f _ _ | .telP1 _ f | .telN1 _ f => pathsNormal f
  | .bin _ l r | .telP2 _ l r | .telN2 _ l r => pathsNormal l && pathsNormal r
  | .dia p f | .box p f => pnormal p && pathsNormal f
  | _ => true

theorem pathsNormal_of_isTel {f : BForm} (ht : isTel f = true) : pathsNormal f = true := by
  induction f with
  | atom | numLit | const => rfl
  | neg f ih | prev f _ _ ih | initially f ih | next f _ _ ih | telP1 _ f ih | telN1 _ f ih => exact ih ht
  | bin _ l r ihl ihr | telP2 _ l r ihl ihr | telN2 _ l r ihl ihr =>
    have ht := Bool.and_eq_true_iff.mp ht
    exact Bool.and_eq_true_iff.mpr ⟨ihl ht.1, ihr ht.2⟩
  | dia | box => cases ht

/-- user-level dynamic formulas with normal-form paths -/
def isDel : BForm → Bool
  | .atom _ _ _ => true
  | .const _ => true
  | .dia p f => pnormal p && isDel f
  | .box p f => pnormal p && isDel f
  | _ => false

theorem pathsNormal_of_isDel {f : BForm} (hd : isDel f = true) : pathsNormal f = true := by
  induction f with
  | atom | const => rfl
  | dia p f ih | box p f ih =>
    have hd := Bool.and_eq_true_iff.mp hd
    exact Bool.and_eq_true_iff.mpr ⟨hd.1, ih hd.2⟩
  | _ => cases hd

/-- `v` solves the equations on the set `S` of pairs, which is closed under their references and lies within the horizon -/
structure Sys (h : Nat) (tr : Trace) (lv : Int → Bool) (v : BForm → Nat → Bool) (S : BForm → Nat → Prop) : Prop where
  bound : ∀ f k, S f k → k ≤ h
  closed : ∀ f k, S f k → ∀ p ∈ (eqn h f k).refs, S p.1 p.2
  solves : ∀ f k, S f k → v f k = (eqn h f k).eval tr lv v

theorem down_induction (h : Nat) {P : Nat → Prop} (step : ∀ k, (∀ j, k < j → j ≤ h → P j) → P k) (k : Nat) : P k := by
  generalize hm : h - k = m
  induction m using Nat.strongRecOn generalizing k with
  | _ m ih =>
    exact step k fun j hkj hjh => ih (h - j) (hm ▸ Nat.sub_lt_sub_left (Nat.lt_of_lt_of_le hkj hjh) hkj) j rfl

section
variable {h : Nat} {tr : Trace} {lv : Int → Bool} {v : BForm → Nat → Bool} {S : BForm → Nat → Prop}

theorem Sys.eq_sem (sys : Sys h tr lv v S) {f : BForm} {k : Nat} (hS : S f k)
    (hrefs : ∀ p ∈ (eqn h f k).refs, S p.1 p.2 → v p.1 p.2 = p.1.sem h tr lv p.2) :
    v f k = f.sem h tr lv k := by
  rw [sys.solves f k hS, sem_eqn (sys.bound f k hS)]
  exact eval_congr fun p hp => hrefs p hp (sys.closed f k hS p hp)

theorem Sys.bin_eq_sem (sys : Sys h tr lv v S) {op : String} {l r : BForm} {k : Nat} (hS : S (.bin op l r) k)
    (hl : S l k → v l k = l.sem h tr lv k) (hr : S r k → v r k = r.sem h tr lv k) :
    v (.bin op l r) k = (BForm.bin op l r).sem h tr lv k :=
  sys.eq_sem hS (forall_refs_binExpr (forall_refs_ref hl) (forall_refs_ref hr))

theorem Sys.next_eq_sem (sys : Sys h tr lv v S) {f : BForm} {n : Nat} {w : Bool} {k : Nat} (hS : S (.next f n w) k)
    (hf : k + n ≤ h → S f (k + n) → v f (k + n) = f.sem h tr lv (k + n)) :
    v (.next f n w) k = (BForm.next f n w).sem h tr lv k :=
  sys.eq_sem hS (forall_refs_ite (fun hkn => forall_refs_ref (hf hkn)) fun _ _ hp => nomatch hp)

/-! ### modalities: induction on the path -/

/-- diamond (`d = false`) or box (`d = true`), like the `dual` flag of the temporal operators -/
def modal (d : Bool) (p : Path) (X : BForm) : BForm := bif d then .box p X else .dia p X

/-- the formula whose literal (at the same state) `eqn` gives to `modal d p X` -/
def expand (d : Bool) : Path → BForm → BForm
  | .skip, X => .next X 1 d
  | .check t, X => .bin (bif d then "->" else "&") t.toForm X
  | .choice l r, X => .bin (bif d then "&" else "|") (modal d r X) (modal d l X)
  | .seq l r, X => modal d l (modal d r X)
  | .star p, X => .bin "&" (.bin "->" finalForm X) (.bin (bif d then "&" else "|") X (modal d p (modal d (.star p) X)))

theorem eqn_modal (h : Nat) (d : Bool) (p : Path) (X : BForm) (k : Nat) :
    eqn h (modal d p X) k = .ref (expand d p X) k := by
  cases d <;> cases p <;> rfl

theorem Sys.modal_eq_sem (sys : Sys h tr lv v S) {d : Bool} {p : Path} {X : BForm} {k : Nat}
    (hS : S (modal d p X) k) (hE : S (expand d p X) k → v (expand d p X) k = (expand d p X).sem h tr lv k) :
    v (modal d p X) k = (modal d p X).sem h tr lv k := by
  refine sys.eq_sem hS ?_
  rw [eqn_modal]
  exact forall_refs_ref hE

/-- a modality over one path, for an arbitrary continuation `X` whose value is already known at the states the path
    can lead to: the same or a later one, a later one if the path consumes a step -/
theorem modal_path (sys : Sys h tr lv v S) (d : Bool) :
    ∀ p : Path, pnormal p = true → ∀ (X : BForm) (k : Nat), S (modal d p X) k →
      (∀ j, k ≤ j → (pconsumes p = true → k < j) → S X j → v X j = X.sem h tr lv j) →
      v (modal d p X) k = (modal d p X).sem h tr lv k := by
  intro p
  induction p with
  | skip =>
    intro hn X k hS hX
    refine sys.modal_eq_sem hS fun hE => ?_
    exact sys.next_eq_sem hE fun _ => hX (k + 1) (Nat.le_succ k) fun _ => Nat.lt_succ_self k
  | check t =>
    intro hn X k hS hX
    refine sys.modal_eq_sem hS fun hE => sys.bin_eq_sem hE (fun hT => ?_) (hX k (Nat.le_refl k) (fun hc => nomatch hc))
    cases t <;> exact sys.eq_sem hT fun _ hp => nomatch hp
  | choice l r ihl ihr =>
    intro hn X k hS hX
    refine sys.modal_eq_sem hS fun hE => ?_
    have hn := Bool.and_eq_true_iff.mp hn
    exact sys.bin_eq_sem hE
      (fun hr => ihr hn.2 X k hr fun j hj hcj => hX j hj fun hc => hcj (Bool.and_eq_true_iff.mp hc).2)
      (fun hl => ihl hn.1 X k hl fun j hj hcj => hX j hj fun hc => hcj (Bool.and_eq_true_iff.mp hc).1)
  | seq l r ihl ihr =>
    intro hn X k hS hX
    refine sys.modal_eq_sem hS fun hE => ?_
    have hn := Bool.and_eq_true_iff.mp hn
    refine ihl hn.1 (modal d r X) k hE fun j hj hcj hs => ?_
    refine ihr hn.2 X j hs fun i hi hci => hX i (Nat.le_trans hj hi) fun hc => ?_
    rcases Bool.or_eq_true_iff.mp hc with hc | hc
    · exact Nat.lt_of_lt_of_le (hcj hc) hi
    · exact Nat.lt_of_le_of_lt hj (hci hc)
  | star p ih =>
    intro hn X k
    have hn' := Bool.and_eq_true_iff.mp hn
    induction k using down_induction h with
    | step k ihk =>
      intro hS hX
      have hXk := hX k (Nat.le_refl k) (fun hc => nomatch hc)
      refine sys.modal_eq_sem hS fun hE => ?_
      -- the generated formula  (final -> X) & (X | <p><p*>X), resp. (final -> X) & (X & [p][p*]X)
      refine sys.bin_eq_sem hE (fun h1 => sys.bin_eq_sem h1 (fun hF => ?_) hXk) (fun h2 => sys.bin_eq_sem h2 hXk fun h3 => ?_)
      · exact sys.eq_sem hF <| forall_refs_ref fun hN =>
          sys.next_eq_sem hN fun _ hT => sys.eq_sem hT fun _ hp => nomatch hp
      · -- `p` consumes a step, so the iteration is met again only at later states
        refine ih hn'.1 (modal d (.star p) X) k h3 fun j hj hcj hs => ?_
        have hkj := hcj hn'.2
        exact ihk j hkj (sys.bound _ _ hs) hs fun i hi _ =>
          hX i (Nat.le_trans (Nat.le_of_lt hkj) hi) (fun hc => nomatch hc)

/-! ### all formulas: induction on the formula -/

theorem sys_unique (sys : Sys h tr lv v S) :
    ∀ f, pathsNormal f = true → ∀ k, S f k → v f k = f.sem h tr lv k := by
  intro f
  induction f with
  | atom | numLit | const => exact fun _ k hS => sys.eq_sem hS fun _ hp => nomatch hp
  | neg f ih => exact fun hn k hS => sys.eq_sem hS (forall_refs_ref (ih hn k))
  | bin op l r ihl ihr =>
    intro hn k hS
    have hn := Bool.and_eq_true_iff.mp hn
    exact sys.bin_eq_sem hS (ihl hn.1 k) (ihr hn.2 k)
  | prev f n w ih =>
    exact fun hn k hS => sys.eq_sem hS (forall_refs_ite (fun _ => forall_refs_ref (ih hn _)) fun _ _ hp => nomatch hp)
  | initially f ih => exact fun hn k hS => sys.eq_sem hS (forall_refs_ref (ih hn 0))
  | next f n w ih => exact fun hn k hS => sys.next_eq_sem hS fun _ => ih hn _
  | telP2 d l r ihl ihr =>
    intro hn k
    have hn := Bool.and_eq_true_iff.mp hn
    induction k with
    | zero => exact fun hS => sys.eq_sem hS (forall_refs_ref (ihr hn.2 0))
    | succ k ihk =>
      exact fun hS => sys.eq_sem hS (forall_refs_telStep (forall_refs_ref (ihl hn.1 _))
        (forall_refs_ref (ihr hn.2 _)) (forall_refs_ref ihk))
  | telP1 d r ihr =>
    intro hn k
    induction k with
    | zero => exact fun hS => sys.eq_sem hS (forall_refs_ref (ihr hn 0))
    | succ k ihk =>
      exact fun hS => sys.eq_sem hS (forall_refs_telStep (fun _ hp => nomatch hp)
        (forall_refs_ref (ihr hn _)) (forall_refs_ref ihk))
  -- the pair `(> f, k)` the equation refers to is no sub-formula: its own equation leads to `(f, k+1)`, where `ihk` applies
  | telN2 d l r ihl ihr =>
    intro hn k
    have hn := Bool.and_eq_true_iff.mp hn
    induction k using down_induction h with
    | step k ihk =>
      exact fun hS => sys.eq_sem hS (forall_refs_telStep (forall_refs_ref (ihl hn.1 k))
        (forall_refs_ref (ihr hn.2 k))
        (forall_refs_ref fun hN => sys.next_eq_sem hN (ihk (k + 1) (Nat.lt_succ_self k))))
  | telN1 d r ihr =>
    intro hn k
    induction k using down_induction h with
    | step k ihk =>
      exact fun hS => sys.eq_sem hS (forall_refs_telStep (fun _ hp => nomatch hp)
        (forall_refs_ref (ihr hn k))
        (forall_refs_ref fun hN => sys.next_eq_sem hN (ihk (k + 1) (Nat.lt_succ_self k))))
  | dia p f ih =>
    intro hn k hS
    have hn := Bool.and_eq_true_iff.mp hn
    exact modal_path sys false p hn.1 f k hS fun j _ _ => ih hn.2 j
  | box p f ih =>
    intro hn k hS
    have hn := Bool.and_eq_true_iff.mp hn
    exact modal_path sys true p hn.1 f k hS fun j _ _ => ih hn.2 j

theorem tel_unique (sys : Sys h tr lv v S) :
    ∀ f, isTel f = true → ∀ k, S f k → v f k = f.sem h tr lv k :=
  fun f ht => sys_unique sys f (pathsNormal_of_isTel ht)

theorem del_unique (sys : Sys h tr lv v S) :
    ∀ f, isDel f = true → ∀ k, S f k → v f k = f.sem h tr lv k :=
  fun f hd => sys_unique sys f (pathsNormal_of_isDel hd)

theorem Sys.agree {v' : BForm → Nat → Bool} (s1 : Sys h tr lv v S) (s2 : Sys h tr lv v' S) {f : BForm}
    (hn : pathsNormal f = true) {k : Nat} (hS : S f k) : v f k = v' f k :=
  (sys_unique s1 f hn k hS).trans (sys_unique s2 f hn k hS).symm
end

/-! ### existence -/

theorem sem_sys (h : Nat) (tr : Trace) (lv : Int → Bool) :
    Sys h tr lv (fun f k => f.sem h tr lv k) (fun f k => isTel f = true ∧ k ≤ h) := by
  refine ⟨fun f k hS => hS.2, ?_, fun f k hS => sem_eqn hS.2⟩
  -- closed: the equations refer to subformulas, and to the formula itself only at states of the trace
  intro f k ⟨ht, hk⟩
  cases f with
  | atom | numLit | const => exact fun _ hp => nomatch hp
  | neg g => exact forall_refs_ref ⟨ht, hk⟩
  | bin op l r =>
    have ht := Bool.and_eq_true_iff.mp ht
    exact forall_refs_binExpr (forall_refs_ref ⟨ht.1, hk⟩) (forall_refs_ref ⟨ht.2, hk⟩)
  | prev g n w =>
    exact forall_refs_ite (fun _ => forall_refs_ref ⟨ht, Nat.le_trans (Nat.sub_le k n) hk⟩) fun _ _ hp => nomatch hp
  | initially g => exact forall_refs_ref ⟨ht, Nat.zero_le h⟩
  | next g n w => exact forall_refs_ite (fun hkn => forall_refs_ref ⟨ht, hkn⟩) fun _ _ hp => nomatch hp
  | telP2 d l r =>
    have ht' := Bool.and_eq_true_iff.mp ht
    cases k with
    | zero => exact forall_refs_ref ⟨ht'.2, hk⟩
    | succ k =>
      exact forall_refs_telStep (forall_refs_ref ⟨ht'.1, hk⟩) (forall_refs_ref ⟨ht'.2, hk⟩)
        (forall_refs_ref ⟨ht, Nat.le_of_succ_le hk⟩)
  | telP1 d r =>
    cases k with
    | zero => exact forall_refs_ref ⟨ht, hk⟩
    | succ k =>
      exact forall_refs_telStep (fun _ hp => nomatch hp) (forall_refs_ref ⟨ht, hk⟩)
        (forall_refs_ref ⟨ht, Nat.le_of_succ_le hk⟩)
  | telN2 d l r =>
    have ht' := Bool.and_eq_true_iff.mp ht
    exact forall_refs_telStep (forall_refs_ref ⟨ht'.1, hk⟩) (forall_refs_ref ⟨ht'.2, hk⟩)
      (forall_refs_ref ⟨ht, hk⟩)
  | telN1 d r =>
    exact forall_refs_telStep (fun _ hp => nomatch hp) (forall_refs_ref ⟨ht, hk⟩)
      (forall_refs_ref ⟨ht, hk⟩)
  | dia | box => cases ht

end TelProofs
