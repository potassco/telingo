/-
C03 — `&tel` body formulas are evaluated with linear temporal logic on finite traces.

Chain of the argument:
  * `TelSpec.docSem`    the README operator table as LTL_f on a trace of length h+1  (specification)
  * `createFormula`     transcription of telingo/theory/body.py: theory term ↦ code-level formula (with the
                        code's expansion of `;>`, `<;`, `>>`, `<<`, keywords, n-fold prefixes)
  * `eqn`               transcription of each `do_translate`: what the literal of (formula, step) is made
                        equivalent to at horizon h
  * theorems            any valuation solving the equations is `docSem` — for every formula (any nesting,
                        any sharing: identity of pairs is (formula, step)), every state, every horizon.
The correspondence check (tools/impl_theory.py) establishes, on every run, that the literal valuation
of the real implementation in every answer set solves `eqn` on all reachable pairs, and that each
theory atom equals its root formula.
  * `clauses_bool` / `clauses_tel` / `clauses_eq`  the clause level (TelModel/Clauses.lean, transcribing `make_equal`,
                        `make_disjunction`, `BooleanFormula.do_translate`, `TelFormula._translate`): the integrity constraints
                        written for a connective, an induction step of since/trigger/until/release (binary or unary) or an
                        equivalence are not violated iff the formula's literal has the value of the one-step equation
                        (`binExpr` / `telStep` of `eqn`); the harness compares every such step of every run with the
                        model's clauses, literal for literal.
  * `theory_atoms_total_world`  the lifting to stable models, for any host program (generic answer-set programs,
                        TelProofs/Meta/DefExt.lean): when the program mentions the theory-atom literals only in rule
                        bodies and the translation adds only choices on fresh atoms, integrity constraints and
                        negative-body definitions, `X` is a stable model of the whole iff `X` is good for the added part
                        (by the theorems above: every fresh atom carries its LTL_f value on `X`'s trace) and `X` cut to
                        the program's atoms is a stable model of the program with each theory atom *replaced by its
                        truth value in `X` itself* — exactly how the specification `TSM` reads a `&tel` body literal
                        (`BLit.holds` evaluates it on the total trace in both worlds).
  * `placeholder_life`  the life of the obligation of a `>` beyond the horizon (model `nextTranslate` / `life` of
                        `Next.do_translate` and the todo list, TelModel/NextLife.lean; every call of the real method is compared
                        with the model): after the `translate` call of horizon h the pair (formula, step) is finished iff its
                        target state `step + n` exists; while it does not, the placeholder carries the operator's end-of-trace
                        value and the pair is queued under its own step; it is resolved — equated with the argument's literal at
                        `step + n`, set free — in exactly one call, the one of horizon `step + n`.  This is why `eqn` may read a
                        next formula as "the argument at `step + n` if that state exists, else the end-of-trace value" at every
                        horizon.
  * `occurrences_equated` / `occurrences_follow` / `formula_literal_stable`  the link between the theory atoms of the program and the
                        formula's literal (model `StepData` of `BodyFormula.translate` / `add_atom` / `StepData.add_literal`,
                        TelModel/StepData.lean; the real methods are driven with random call sequences against the model): for
                        every sequence of registrations of occurrence literals and translations of the (formula, step) pair —
                        occurrences that turn up in a later `Theory.translate` call included (regrounded constraints with a primed
                        atom and a `&tel` atom) — that ends with a translation, every registered occurrence is the formula's literal
                        or has been made equivalent to it, nothing else is written, and the formula's literal never changes.
-/
import TelProofs.DocEq
import TelProofs.Meta.DefExt
import TelProofs.TheoryCallProofs
import TelProofs.NextLifeProofs

namespace TelProofs.C03
open TelSpec TelModel

/-- (a) the code's formula construction implements the documented operator table -/
theorem doc_eq_sem (s : SForm) (hg : GoodAtoms s) :
    ∃ f, createFormula (toTerm s) = .ok f ∧ isTel f = true ∧
      ∀ (h : Nat) (tr : Trace) (lv : Int → Bool) (k : Nat), k ≤ h →
        f.sem h (withAdmin h tr) lv k = docSem h tr s k :=
  TelProofs.doc_eq_sem s hg

/-- (b) the Tseitin-style equations have exactly one solution: the LTL_f semantics -/
theorem tseitin_unique {h : Nat} {tr : Trace} {lv : Int → Bool} {v : BForm → Nat → Bool}
    {S : BForm → Nat → Prop} (sys : Sys h tr lv v S) (f : BForm) (ht : isTel f = true) (k : Nat) (hS : S f k) :
    v f k = f.sem h tr lv k :=
  tel_unique sys f ht k hS

/-- (a)+(b): whatever the horizon, whatever else is being translated (the set `S`), the literal that the
    translation attaches to `&tel{s}` at state `k` has the LTL_f value of `s` at `k` — including the
    boundary rules (strong next false / weak next true at the last state), because `eqn h` resolves a
    `Next` beyond the horizon to its weakness flag and re-reads it at the next horizon. -/
theorem C03_value (s : SForm) (hg : GoodAtoms s) :
    ∃ f, createFormula (toTerm s) = .ok f ∧
      ∀ (h : Nat) (tr : Trace) (lv : Int → Bool) (v : BForm → Nat → Bool) (S : BForm → Nat → Prop),
        Sys h (withAdmin h tr) lv v S → ∀ k, S f k → v f k = docSem h tr s k :=
  ⟨mform s, createFormula_toTerm s hg, fun _ _ _ _ _ sys _ hS => mform_value s hg sys hS⟩

/-- Re-deciding when the horizon grows: the value at horizon `h` and at horizon `h+1` are each the
    LTL_f value on the respective trace — no residue of the shorter trace. -/
theorem C03_redecided (s : SForm) (hg : GoodAtoms s) :
    ∃ f, createFormula (toTerm s) = .ok f ∧
      ∀ (h : Nat) (tr : Trace) (lv : Int → Bool) (v v' : BForm → Nat → Bool) (S S' : BForm → Nat → Prop),
        Sys h (withAdmin h tr) lv v S → Sys (h+1) (withAdmin (h+1) tr) lv v' S' →
        ∀ k, S f k → S' f k → v f k = docSem h tr s k ∧ v' f k = docSem (h+1) tr s k :=
  ⟨mform s, createFormula_toTerm s hg, fun _ _ _ _ _ _ _ sys sys' _ hS hS' =>
    ⟨mform_value s hg sys hS, mform_value s hg sys' hS'⟩⟩

/-- (d) lifting to stable models of an arbitrary host program: theory atoms in rule bodies are evaluated in the
    total world of the candidate answer set -/
theorem theory_atoms_total_world {α : Type} [DecidableEq α] (P E : List (DefExt.Rule α)) (N : α → Bool)
    (hP : ∀ r ∈ P, ∀ a ∈ r.head, N a = false) (hE : ∀ r ∈ E, DefExt.EShape N r) (X : DefExt.Interp α) :
    DefExt.Stable (P ++ E) X ↔ (DefExt.Good E N X ∧ DefExt.Stable (DefExt.evalProg N X P) (DefExt.cut N X)) :=
  DefExt.stable_iff_eval P E N hP hE X

/-- clause level: Boolean connectives -/
theorem clauses_bool (v : Nat → Bool) (op : String) (lit lhs rhs : Int) (h0 : lit ≠ 0) (h1 : lhs ≠ 0) (h2 : rhs ≠ 0)
    (hop : op = "&" ∨ op = "|" ∨ op = "<-" ∨ op = "->" ∨ op = "<>") :
    clausesOk v (boolClauses op lit lhs rhs) = (litTrue v lit == boolVal op (litTrue v lhs) (litTrue v rhs)) :=
  boolClauses_ok v op lit lhs rhs h0 h1 h2 hop

/-- clause level: one induction step of `<?`, `<*`, `>?`, `>*` (binary: `lhs = some _`, unary: `none`) -/
theorem clauses_tel (v : Nat → Bool) (dual : Bool) (lit : Int) (lhs : Option Int) (rhs pre : Int)
    (h0 : lit ≠ 0) (h1 : ∀ l, lhs = some l → l ≠ 0) (h2 : rhs ≠ 0) (h3 : pre ≠ 0) :
    clausesOk v (telClauses dual lit lhs rhs pre) =
      (litTrue v lit == telVal dual (lhs.map (litTrue v)) (litTrue v rhs) (litTrue v pre)) :=
  telClauses_ok v dual lit lhs rhs pre h0 h1 h2 h3

/-- clause level: `make_equal` (theory-atom literals, placeholders of `>` beyond the horizon) -/
theorem clauses_eq (v : Nat → Bool) (a b : Int) (ha : a ≠ 0) (hb : b ≠ 0) :
    clausesOk v (makeEqual a b) = (litTrue v a == litTrue v b) := makeEqual_ok v a b ha hb

/-- the clause-level values are those of the equations -/
theorem clause_values_are_equations (op : String) (a b : BExpr) (dual : Bool) (l : Option BExpr) (r p : BExpr)
    (tr : Trace) (lv : Int → Bool) (val : BForm → Nat → Bool) :
    (binExpr op a b).eval tr lv val = boolVal op (a.eval tr lv val) (b.eval tr lv val) ∧
    (telStep dual l r p).eval tr lv val = telVal dual (l.map fun e => e.eval tr lv val) (r.eval tr lv val) (p.eval tr lv val) :=
  ⟨binExpr_eval op a b tr lv val, telVal_telStep dual l r p tr lv val⟩

/-! ### non-vacuity -/

/-- a concrete formula with nesting, past and future operators meets the hypotheses -/
example : GoodAtoms (.unt (.atom "a") (.seqNext true (.prev 2 false (.atom "b")) (.finally_ (.atom "a")))) := by
  simp [GoodAtoms, GoodAtom]
  decide

/-- strong next is false and weak next is true at the last state -/
example : docSem 2 (fun _ _ => true) (.next 1 false (.atom "a")) 2 = false := by rfl
example : docSem 2 (fun _ _ => true) (.next 1 true (.atom "a")) 2 = true := by rfl

/-- **life cycle of a next formula's placeholder** across the horizons `h0, h0+1, …` of a run (first translated at horizon `h0`) -/
theorem placeholder_life (n : Nat) (weak : Bool) (step h0 : Nat) (k : Nat) :
    let (st, todo, act) := life n weak step h0 k
    (st = .done ↔ step + n ≤ h0 + k) ∧ (todo = if step + n ≤ h0 + k then none else some step) ∧
    (act = .resolve (step + n) ↔ (h0 < step + n ∧ h0 + k = step + n)) :=
  TelProofs.placeholder_life n weak step h0 k

/-- non-vacuity: `2 > p` first translated at step 0 when the horizon is 1 (reached through `< 2 > p` at step 1) -/
example : (List.range 4).map (fun k => (life 2 false 0 1 k).2.2) =
    [.placeholder false 0, .resolve 2, .nothing, .nothing] := rfl

/-! ### the theory atoms of the program and the literal of the formula -/

/-- Every sequence of `add_atom` / `translate` calls on one (formula, step) pair that ends with a `translate`: the formula has
    a literal; every occurrence literal registered so far is that literal or both clauses of their equivalence are written;
    every constraint written is such a clause. -/
theorem occurrences_equated (ops : List SDOp) (s : LitSource) :
    ∃ l, (StepData.run {} (ops ++ [.translate s])).1.literal = some l ∧
      (∀ a ∈ SD.added ops, a = l ∨ ∀ c ∈ makeEqual a l, SDOut.clause c ∈ (StepData.run {} (ops ++ [.translate s])).2) ∧
      (∀ c, SDOut.clause c ∈ (StepData.run {} (ops ++ [.translate s])).2 → ∃ a ∈ SD.added ops, c ∈ makeEqual a l) :=
  SD.occurrences_equated ops s

/-- … so in every answer set each occurrence of the theory atom has the value of the formula's literal -/
theorem occurrences_follow (ops : List SDOp) (s : LitSource) (v : Nat → Bool)
    (hv : ∀ c, SDOut.clause c ∈ (StepData.run {} (ops ++ [.translate s])).2 → Clause.ok v c = true) :
    ∃ l, (StepData.run {} (ops ++ [.translate s])).1.literal = some l ∧
      ∀ a ∈ SD.added ops, a ≠ 0 → l ≠ 0 → litTrue v a = litTrue v l :=
  SD.occurrences_follow ops s v hv

/-- the literal of a (formula, step) pair is fixed by the first translation -/
theorem formula_literal_stable (ops : List SDOp) (d : StepData) (l : Int) (h : d.literal = some l) :
    (d.run ops).1.literal = some l :=
  SD.literal_stable ops d l h

/-- Composition with the todo list over any number of `Theory.translate` calls (model `TheoryCall`; `GoodCall` — every queued
    pair is translated before the call returns, and the operations of the second loop on a pair are none or end with a
    translation — is checked on every call of the real method): every ground theory atom met in any call is the literal of its
    (formula, step) pair or has both clauses of the equivalence with it written, also when it turns up only after an earlier
    call has translated the pair. -/
theorem theory_atoms_equated (calls : List TheoryCall) (hg : ∀ p ∈ calls, TC.GoodCall p) (k : TodoKey) (a : Int)
    (ha : ∃ p ∈ calls, (k, a) ∈ p.atoms) :
    ∃ l, (StepData.run {} (projKey k (TC.runOps calls))).1.literal = some l ∧
      (a = l ∨ ∀ c ∈ makeEqual a l, SDOut.clause c ∈ (StepData.run {} (projKey k (TC.runOps calls))).2) :=
  TC.theory_atoms_equated calls hg k a ha

/-- `GoodCall` is satisfiable: a call with one theory atom whose pair is translated -/
example : TC.GoodCall { atoms := [((0, "(a())"), 5)], pending := [], body := [((0, "(a())"), .translate (.assign 3))] } := by
  refine ⟨fun k hk => ?_, fun k => ?_⟩
  · -- the queue of this call computes to the one pair
    obtain rfl : k = (0, "(a())") := List.mem_singleton.1 (show k ∈ [((0 : Nat), "(a())")] from hk)
    exact ⟨.assign 3, List.mem_singleton_self _⟩
  · by_cases h : ((0, "(a())") : TodoKey) = k
    · subst h
      exact .inr ⟨[], .assign 3, rfl⟩
    · exact .inl (by simp [projKey, h])

/-- an occurrence that is registered after the pair has been translated (a later `Theory.translate` call) is equated by the
    next translation: registrations 5, translation (5 becomes the representative), registration 7, translation -/
example : (StepData.run {} [.addAtom 5, .translate (.own 9), .addAtom 7, .translate (.own 10)]).1.literal = some 5 ∧
    (StepData.run {} [.addAtom 5, .translate (.own 9), .addAtom 7, .translate (.own 10)]).2 =
      [.clause [5, -5], .clause [-5, 5], .clause [7, -5], .clause [-7, 5]] := ⟨rfl, rfl⟩

/-- without registered occurrences `add_literal` takes a fresh atom under a choice rule -/
example : (StepData.run {} [.translate (.own 9), .addAtom 7, .translate (.own 10)]).2 =
    [.choice 9, .clause [7, -9], .clause [-7, 9]] := rfl

end TelProofs.C03
