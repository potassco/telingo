/-
C17 — growing the trace never rewrites the past of past-only programs.
-/
import TelProofs.Prefix

namespace TelProofs.C17
open TelSpec TelModel

/-- on the specification: the first h+1 states of a temporal stable model of horizon h+1 of a past-only
    program form a temporal stable model of horizon h -/
theorem tsm_prefix (P : TProg) (hp : progPast P = true) (h : Nat) (T : Trace) (hT : TSM (h+1) P T) : TSM h P T :=
  TelProofs.tsm_prefix P hp h T hT

/-- the same with past temporal formulas (`&tel` body atoms built from `<`, `<:`, `<?`, `<*`, `<<`, `<;`, `<:;`, Boolean
    connectives, `&initial`) in rule bodies: they do not see the horizon, so cutting the trace keeps their value -/
theorem tsm_prefix_tel (P : TProg) (hp : progPastT P = true) (h : Nat) (T : Trace) (hT : TSM (h+1) P T) : TSM h P T :=
  TelProofs.tsm_prefix_tel P hp h T hT

/-- a past-only formula has the same value at every horizon -/
theorem past_formula_horizon_free (h h' : Nat) (f : SForm) (hp : pastF f = true) (T : Trace) (k : Nat) :
    docSem h T f k = docSem h' T f k := tht_horizon h h' f hp T T k

/-- **C17** on the model of the incremental run: every stable model of the program accumulated after steps
    0..h+1, cut to the states 0..h, is a stable model of the program accumulated after steps 0..h — extending
    the horizon only appends a state, however many steps the run has already taken. -/
theorem C17_prefix (P : TProg) (hp : progPast P = true) (h : Nat) (X : Interp) (hs : Stable (G P (h+1)) X) :
    Stable (G P h) (embed h (traceOf X)) :=
  stable_cut P hp (Nat.le_succ h) X hs

/-- iterated: any later horizon, cut to any earlier one -/
theorem C17_prefix_iter (P : TProg) (hp : progPast P = true) (h d : Nat) (X : Interp) (hs : Stable (G P (h+d)) X) :
    Stable (G P h) (embed h (traceOf X)) :=
  stable_cut P hp (Nat.le_add_right h d) X hs

/-! ### non-vacuity -/
example : progPast [⟨.initial, .choice ["a"], []⟩, ⟨.dynamic, .atom "b" 0, [.atom .pos "a" (-1), .init .not "b"]⟩,
                    ⟨.always, .falsum, [.atom .pos "b" (-2), .kw .not .kinitial]⟩] = true := by decide

example : progPastT [⟨.initial, .choice ["a"], []⟩,
                     ⟨.dynamic, .atom "b" 0, [.tel .notnot (.since (.atom "a") (.prev 2 true (.atom "b")))]⟩,
                     ⟨.always, .falsum, [.tel .not (.alP (.bin .or (.atom "a") (.kw .kinitial)))]⟩] = true := by decide

end TelProofs.C17
