/-
C04 — `&tel` head formulas derive atoms according to temporal here-and-there semantics.

What is proved (about the model of telingo/theory/head.py, which is tied to the code by comparing
`create_formula`, `shift_formula`, `unfold_formula` of the implementation with the model on generated head
formulas — exact equality of representations at every shift):
  (a) head_doc_eq     the head `create_formula` implements the documented reading: for every head-admissible surface
                      formula (README operator table, any nesting) the code-level formula built from its theory term
                      has the specification's THT value `tht` in every world of every interpretation — `>>`, `;>`, `;>:`,
                      `&initial`/`&final` (double negation), 0-fold and n-fold next included
  (a') range_adequate / emitted_heads_in_ranges   the time ranges computed for the atoms of a head formula (the recursion of
                      `TheoryAtomTransformer`: next operators move the range, unbounded operators make it a ray, nothing
                      below `~`) cover every atom that stands in a clause of the formula shifted by d steps: the domain rule
                      introduces every atom the step-wise translation can put into a rule head
  (b) unshift_equiv   the formula shifted by d steps (the recursion until → next → shift of `ShiftFormula`)
                      means, d states later, what the formula means now, in every THT world; termination of
                      that recursion is part of the definition's acceptance by Lean
  (c) unfold_cnf      `unfold_formula` is distribution into conjunctive normal form
  (d) shift_iff       time-stratified shifting: moving the off-time disjuncts of a clause into the body under
                      default negation (what `translate_clause` does with `TelShift`s) preserves stable models
  (e) emitted_rule_reads_clause / head_as_body / emitted_rules_total   the rule `ClauseToRule` / `translate_clause` emit for a
                      clause — atoms of the current step as head, the negated literal of the body formula of every shifted part
                      (`head_formula_to_body_formula`) — holds in a world (W,T) exactly when the clause holds with its shifted
                      parts read in T (double negation); on total traces all rules of a step hold iff the formula holds
  (a)+(b)+(c) head_clauses_mean_formula   the clauses emitted d steps after the formula's own step hold exactly when the
                      documented formula holds at its step
The end-to-end statement `C04_statement` (answer sets = temporal stable models with head formulas) is kept
visible; it is PARTIAL: (b)–(d) are its formula-level and program-level ingredients, the composition with the
incremental grounding is validated by the search against the brute-force THT equilibrium enumerator.
-/
import TelProofs.HeadDocEq
import TelProofs.RangeAdequate
import TelProofs.HeadRuleProofs
import TelProofs.Meta.Shift

namespace TelProofs.C04
open TelSpec TelModel

/-- the end-to-end statement (not proved here) -/
def C04_statement (stableOfRun : TProg → Nat → Trace → Prop) : Prop :=
  ∀ (P : TProg) (h : Nat) (T : Trace), stableOfRun P h T ↔ (∃ T', TSM h P T' ∧ TraceEq h T' T)

/-- (b) -/
theorem unshift_equiv (h : Nat) (W T : Trace) (d : Nat) (f : HForm) (k : Nat) (hk : k + d ≤ h)
    (hn : noShift f = true) : hsem h W T (shiftF d f) (k + d) = hsem h W T f k :=
  TelProofs.unshift_equiv h W T d f k hk hn

/-- (c) -/
theorem unfold_cnf (h : Nat) (W T : Trace) (k : Nat) (f : HForm) :
    (unfoldF f).all (fun c => c.any fun x => hsem h W T x k) = hsem h W T f k :=
  TelProofs.unfold_cnf h W T k f

/-- (b)+(c): at step `s0 + d` the clauses the translation emits for a head formula created at `s0` hold
    exactly when the formula holds at `s0` -/
theorem clauses_at_step (h : Nat) (W T : Trace) (d s0 : Nat) (f : HForm) (hk : s0 + d ≤ h) (hn : noShift f = true) :
    (unfoldF (shiftF d f)).all (fun c => c.any fun x => hsem h W T x (s0 + d)) = hsem h W T f s0 := by
  rw [unfold_cnf, unshift_equiv h W T d f s0 hk hn]

/-- (a) the head formula construction implements the documented operator table under THT -/
theorem head_doc_eq (s : SForm) (hok : s.headOk = true) (hg : GoodAtoms s) :
    ∃ f, hCreateFormula (toTerm s) = .ok f ∧ noShift f = true ∧
      ∀ (h : Nat) (W T : Trace) (k : Nat), k ≤ h → hsem h (withAdmin h W) (withAdmin h T) f k = tht h W T s k :=
  TelProofs.head_doc_eq s hok hg

/-- (a)+(b)+(c): what the translation emits for a documented head formula `d` steps after its own step `s0` holds in a
    world exactly when the documented formula holds there at `s0` -/
theorem head_clauses_mean_formula (s : SForm) (hok : s.headOk = true) (hg : GoodAtoms s) :
    ∃ f, hCreateFormula (toTerm s) = .ok f ∧
      ∀ (h : Nat) (W T : Trace) (d s0 : Nat), s0 + d ≤ h →
        (unfoldF (shiftF d f)).all (fun c => c.any fun x => hsem h (withAdmin h W) (withAdmin h T) x (s0 + d)) =
          tht h W T s s0 :=
  ⟨mhead s, hCreateFormula_toTerm s hok, fun h W T d s0 hk =>
    (clauses_at_step h _ _ d s0 _ hk (noShift_mhead s)).trans (hsem_mhead h W T s hok hg s0 (Nat.le_of_add_right_le hk))⟩

/-- (a') every atom in a clause emitted `d` steps after the formula's own step lies in a range computed for it -/
theorem emitted_heads_in_ranges (d : Nat) (f : HForm) (c : List HForm) (hc : c ∈ unfoldF (shiftF d f))
    (p : Bool) (n : String) (a : List Sym) (hx : HForm.atom p n a ∈ c) :
    ∃ r, (hkey p n a, r) ∈ rangesH 0 false f ∧ r.covers d :=
  TelProofs.emitted_heads_in_ranges d f c hc p n a hx

/-- (e) the rule emitted for a clause (`ClauseToRule` / `translate_clause`: the atoms of the current step as head, the
    negated literal of the body formula `n > f` / `n < f` / `f` for every shifted part `TelShift(n, f)`) holds in a
    here-and-there world exactly when the clause holds with its shifted parts read in the there-world — the clause with
    its off-time parts under double negation; for every clause of every head formula at every distance -/
theorem emitted_rule_reads_clause (h : Nat) (W T : Trace) (lv : Int → Bool) (d : Nat) (f : HForm) (hn : noShift f = true)
    (k : Nat) (hk : k ≤ h) (c : List HForm) (hc : c ∈ unfoldF (shiftF d f)) :
    ruleSat h W T lv k (ruleShape c) = dnegClause h W T k c :=
  TelProofs.emitted_rule_reads_clause h W T lv d f hn k hk c hc

/-- (e') the body formula behind a negated literal is the head formula read classically (`head_formula_to_body_formula`) -/
theorem head_as_body (h : Nat) (T : Trace) (lv : Int → Bool) (f : HForm) (hn : noShift f = true) (k : Nat) :
    (toBody f).sem h T lv k = hsem h T T f k :=
  congrFun (sem_toBody h T lv f hn) k

/-- (b)+(c)+(e): on a total trace, the rules emitted `d` steps after the formula's own step `s0` are all satisfied exactly
    when the formula holds at `s0` -/
theorem emitted_rules_total (h : Nat) (T : Trace) (lv : Int → Bool) (d s0 : Nat) (f : HForm) (hk : s0 + d ≤ h)
    (hn : noShift f = true) :
    (unfoldF (shiftF d f)).all (fun c => ruleSat h T T lv (s0 + d) (ruleShape c)) = hsem h T T f s0 := by
  rw [← clauses_at_step h T T d s0 f hk hn]
  apply all_congr_mem
  intro c hc
  exact rule_total h T lv (s0 + d) hk c (unfold_shape _ (shiftF_shifted d f hn) c hc)

/-- (d) -/
theorem shift_iff {β : Type} (time : β → Nat) (P : Set (Meta.Rule β)) (hstrat : ∀ r ∈ P, r.stratified time)
    (T : Set β) : Meta.Stable (Meta.shiftProg time P) T ↔ Meta.Stable P T :=
  Meta.shift_iff time P hstrat T

/-- `~` is default negation: it looks at the "there" world only, so `a | ~a` is a choice -/
theorem neg_is_default (h : Nat) (W T : Trace) (f : HForm) (k : Nat) :
    hsem h W T (.neg f) k = !(hsem h T T f k) := rfl

theorem choice_reading (h : Nat) (W T : Trace) (a : HForm) (k : Nat) :
    hsem h W T (.clause2 a (.neg a) false) k = (hsem h W T a k || !(hsem h T T a k)) := rfl

/-! ### non-vacuity -/
example : (SForm.rel (.atom "a") (.bin .or (.seqNext true (.atom "b") (.finally_ (.atom "a"))) (.neg (.next 2 false (.kw .kfinal))))).headOk = true := rfl

example : rangesH 0 false (.clause2 (.next 2 (.atom true "a" []) false) (.until1 (.next 1 (.atom true "b" []) true) false) true) =
    [("a()", ⟨2, false⟩), ("b()", ⟨1, true⟩)] := rfl
example : noShift (.until2 (.atom true "a" []) (.clause2 (.atom true "b" []) (.neg (.atom true "c" [])) false) true) = true := rfl
example : shiftF 1 (.next 1 (.atom true "a" []) false) = .atom true "a" [] := by simp [shiftF]
example : shiftF 0 (.next 1 (.atom true "a" []) false) = .shift 0 (.next 1 (.atom true "a" []) false) := by simp [shiftF]

end TelProofs.C04
