/-
C13 — body temporal formulas are pure observers of the trace.

What the translation adds for a body formula is a *definitional extension*: one literal per (formula, step)
constrained by the one-step equations.  For every trace, horizon and set of formulas being translated,
  * `formula_exists`   the equations have a solution (the semantics): mentioning a formula cannot destroy an
                       answer set;
  * `formula_definite` any two solutions agree: it cannot duplicate one, and the formula has a definite truth
                       value in every answer set — hence `:- &tel{f}` and `:- not &tel{f}` split the answer sets
                       into two disjoint classes that together are all of them (`constraint_split`).
For `&del` under normal form: `del_definite`.
At the level of stable models (`observer_cut`, `observer_conservative`, generic over the atom type, TelProofs/Meta/DefExt.lean):
if what is added to a ground program `P` consists only of choice rules on fresh atoms, integrity constraints and rules
without positive body that define fresh atoms (`w :- not not t.`), then every stable model of the extended program cut
to the old atoms is a stable model of `P`; and if the added constraints hold exactly when every fresh atom has the value
a function of the old atoms gives it (for telingo: the value of the formula it stands for — the statements above), the
cut is a bijection: nothing is created, destroyed or duplicated.
For the clause groups the code really writes the two hypotheses are derived from the clause model (TelModel/Clauses.lean,
tied to the code literal for literal by the clause correspondence): a Boolean connective, a temporal induction step and an
equivalence are *clause definitions* (`bool_group_defines`, `tel_group_defines`, `eq_group_defines`), and every chain of
clause definitions — each fresh atom new to the program and to the definitions before it, later ones free to use earlier
ones, as the literals of sub-formulas are used by their super-formulas — is a conservative extension
(`definition_chain_conservative`).
The placeholder of a `>` whose target lies beyond the horizon is, in the program of one solve call, an external with a
fixed truth value — a fact (weak) or nothing (strong): also a clause definition (`placeholder_defines`); in the solve call
that reaches the target it is a free atom with the clauses of `make_equal` (`eq_group_defines`).
PARTIAL: that clingo's multi-shot state after `add_external(…, Free)` / `release_external` is this per-call program is the
solver's contract; it is checked on the implementation: (H1) the recorded backend statements of every run with body
formulas have exactly the admitted shapes (tools/impl_theory.backend_shape), (H2) in every answer set the recorded literal
values solve the equations (L4).
-/
import TelProofs.Tseitin
import TelProofs.ClauseChain

namespace TelProofs.C13
open TelSpec TelModel

/-- a solution exists, for every temporal formula at every state of every trace and horizon -/
theorem formula_exists (h : Nat) (tr : Trace) (lv : Int → Bool) :
    ∃ v : BForm → Nat → Bool, Sys h tr lv v (fun f k => isTel f = true ∧ k ≤ h) :=
  ⟨_, sem_sys h tr lv⟩

/-- … and it is unique -/
theorem formula_definite {h : Nat} {tr : Trace} {lv : Int → Bool} {v v' : BForm → Nat → Bool}
    {S : BForm → Nat → Prop} (s1 : Sys h tr lv v S) (s2 : Sys h tr lv v' S) (f : BForm) (ht : isTel f = true)
    (k : Nat) (hS : S f k) : v f k = v' f k :=
  s1.agree s2 (pathsNormal_of_isTel ht) hS

theorem del_definite {h : Nat} {tr : Trace} {lv : Int → Bool} {v v' : BForm → Nat → Bool}
    {S : BForm → Nat → Prop} (s1 : Sys h tr lv v S) (s2 : Sys h tr lv v' S) (f : BForm) (hd : isDel f = true)
    (k : Nat) (hS : S f k) : v f k = v' f k :=
  s1.agree s2 (pathsNormal_of_isDel hd) hS

/-- the two constraints partition: in every solution the formula literal is true or false, never both,
    and which one is decided by the trace alone -/
theorem constraint_split {h : Nat} {tr : Trace} {lv : Int → Bool} {v : BForm → Nat → Bool}
    {S : BForm → Nat → Prop} (s : Sys h tr lv v S) (f : BForm) (ht : isTel f = true) (k : Nat) (hS : S f k) :
    (v f k = true ∧ f.sem h tr lv k = true) ∨ (v f k = false ∧ f.sem h tr lv k = false) := by
  rw [tel_unique s f ht k hS]
  cases f.sem h tr lv k
  · exact .inr ⟨rfl, rfl⟩
  · exact .inl ⟨rfl, rfl⟩

/-- cutting: whatever the fresh atoms are constrained to, no answer set of the old program is invented -/
theorem observer_cut {α : Type} (P E : List (DefExt.Rule α)) (N : α → Bool)
    (hP : ∀ r ∈ P, ∀ a ∈ r.atoms, N a = false) (hE : ∀ r ∈ E, DefExt.EShape N r)
    (X : DefExt.Interp α) (hs : DefExt.Stable (P ++ E) X) : DefExt.Stable P (DefExt.cut N X) :=
  DefExt.cut_stable P E N hP hE X hs

/-- **C13 at the level of stable models**: a definitional extension whose fresh atoms are functions of the old atoms
    neither creates, nor destroys, nor duplicates answer sets -/
theorem observer_conservative {α : Type} [DecidableEq α] (P E : List (DefExt.Rule α)) (N : α → Bool)
    (hP : ∀ r ∈ P, ∀ a ∈ r.atoms, N a = false) (hE : ∀ r ∈ E, DefExt.EShape N r)
    (val : DefExt.Interp α → α → Bool)
    (hval : ∀ Y Y' : DefExt.Interp α, (∀ a, N a = false → Y a = Y' a) → ∀ n, val Y n = val Y' n)
    (hsat : ∀ Y : DefExt.Interp α, (∀ r ∈ E, r.sat Y Y = true) ↔ ∀ n, N n = true → Y n = val Y n)
    (hfree : ∀ n, N n = true → ∃ r ∈ E, n ∈ r.head ∧ r.pos = [] ∧ r.neg = [] ∧ r.nneg = []) :
    (∀ X, DefExt.Stable (P ++ E) X → DefExt.Stable P (DefExt.cut N X)) ∧
    (∀ X0, DefExt.Stable P X0 → ∃ X, DefExt.Stable (P ++ E) X ∧ (∀ a, N a = false → X a = X0 a)) ∧
    (∀ X X', DefExt.Stable (P ++ E) X → DefExt.Stable (P ++ E) X' → (∀ a, N a = false → X a = X' a) → ∀ a, X a = X' a) :=
  DefExt.conservative P E N hP hE (DefExt.det_of_function val hval hsat hfree)

/-- a worked instance with the clauses the code really writes: the literal of one Boolean connective over two program
    atoms (`BooleanFormula.do_translate`: a choice on a fresh atom and the constraints of `boolClauses`) is a conservative
    extension of any program that does not mention the fresh atom -/
theorem bool_definition_conservative (P : List (DefExt.Rule Nat)) (op : String) (v a b : Nat)
    (hv : 0 < v) (ha : 0 < a) (hb : 0 < b) (hva : v ≠ a) (hvb : v ≠ b)
    (hop : op = "&" ∨ op = "|" ∨ op = "<-" ∨ op = "->" ∨ op = "<>")
    (hP : ∀ r ∈ P, ∀ x ∈ r.atoms, (x == v) = false) :
    (∀ X, DefExt.Stable (P ++ boolDefinition op v a b) X → DefExt.Stable P (DefExt.cut (fun n => n == v) X)) ∧
    (∀ X0, DefExt.Stable P X0 → ∃ X, DefExt.Stable (P ++ boolDefinition op v a b) X ∧ (∀ x, (x == v) = false → X x = X0 x)) ∧
    (∀ X X', DefExt.Stable (P ++ boolDefinition op v a b) X → DefExt.Stable (P ++ boolDefinition op v a b) X' →
      (∀ x, (x == v) = false → X x = X' x) → ∀ x, X x = X' x) :=
  single_conservative P (boolDef op v a b)
    (boolDef_wf op v a b hv (Int.natCast_ne_zero.mpr (Nat.ne_of_gt ha)) (Int.natCast_ne_zero.mpr (Nat.ne_of_gt hb))
      (Int.natAbs_natCast a ▸ hva.symm) (Int.natAbs_natCast b ▸ hvb.symm) hop) hP

/-- **chains of Tseitin definitions are conservative**: for a ground program `P` and definitions `ds` (a choice on a
    fresh atom plus integrity constraints that hold exactly when the atom has a value computed from the other atoms),
    each fresh atom new to `P` and to the definitions before it: cutting to the old atoms maps the stable models of the
    extended program onto the stable models of `P`, every stable model of `P` has an extension, and only one -/
theorem definition_chain_conservative (P : List (DefExt.Rule Nat)) (ds : List ClauseDef)
    (hwf : ∀ d ∈ ds, d.WF) (hP : ∀ d ∈ ds, ∀ r ∈ P, ∀ x ∈ r.atoms, (x == d.v) = false)
    (hnew : ds.Pairwise ClauseDef.NewTo) :
    let N := fun n => ds.any (fun d => n == d.v)
    (∀ X, DefExt.Stable (P ++ chainRules ds) X → DefExt.Stable P (DefExt.cut N X)) ∧
    (∀ X0, DefExt.Stable P X0 → ∃ X, DefExt.Stable (P ++ chainRules ds) X ∧ (∀ a, N a = false → X a = X0 a)) ∧
    (∀ X X', DefExt.Stable (P ++ chainRules ds) X → DefExt.Stable (P ++ chainRules ds) X' →
      (∀ a, N a = false → X a = X' a) → ∀ a, X a = X' a) :=
  chain_conservative ds P hwf hP hnew

/-- the clauses of `BooleanFormula.do_translate` define the literal of `a op b`, for arbitrary operand literals -/
theorem bool_group_defines (op : String) (v : Nat) (a b : Int) (hv : 0 < v) (ha : a ≠ 0) (hb : b ≠ 0)
    (hva : a.natAbs ≠ v) (hvb : b.natAbs ≠ v)
    (hop : op = "&" ∨ op = "|" ∨ op = "<-" ∨ op = "->" ∨ op = "<>") : (boolDef op v a b).WF :=
  boolDef_wf op v a b hv ha hb hva hvb hop

/-- the clauses of `TelFormula._translate` define the literal of one induction step of since/trigger/until/release -/
theorem tel_group_defines (dual : Bool) (v : Nat) (lhs : Option Int) (rhs pre : Int) (hv : 0 < v)
    (hl : ∀ l, lhs = some l → l ≠ 0 ∧ l.natAbs ≠ v) (hr : rhs ≠ 0) (hp : pre ≠ 0)
    (hvr : rhs.natAbs ≠ v) (hvp : pre.natAbs ≠ v) : (telDef dual v lhs rhs pre).WF :=
  telDef_wf dual v lhs rhs pre hv hl hr hp hvr hvp

/-- the clauses of `make_equal` define a (free) theory atom as equivalent to a literal -/
theorem eq_group_defines (v : Nat) (b : Int) (hv : 0 < v) (hb : b ≠ 0) (hvb : b.natAbs ≠ v) : (eqDef v b).WF :=
  eqDef_wf v b hv hb hvb

/-- the placeholder of `>` / `>:` beyond the horizon: an external fixed to the value of the operator at the end of the trace -/
theorem placeholder_defines (v : Nat) (weak : Bool) (hv : 0 < v) : (placeholderDef v weak).WF :=
  placeholderDef_wf v weak hv

/-! ### non-vacuity (a concrete instance of the hypotheses is proved in TelProofs/Meta/DefExt.lean, `exP` / `exE`) -/
example : isTel (.telN2 false (.atom "a" [] true) (.bin "&" (.prev (.atom "b" [] true) 2 true) (.neg (.const false)))) = true := rfl

/-- non-vacuity: `{a}.` with `v2 := a | not a`, the placeholder `5` of a weak next, `v3 := v2 & 5`, theory atom `4 = v3` -/
example : Conservative [{ head := [1], choice := true }] (chainRules exChain) (fun n => exChain.any (fun d => n == d.v)) :=
  exChain_conservative

end TelProofs.C13
