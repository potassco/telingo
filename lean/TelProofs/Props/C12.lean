/-
C12 — answer sets do not depend on statement order, duplication or file layout.

At the level of the model: the ground program accumulated at horizon h depends on the temporal program
only through membership of its rules (`G_congr`), stable models depend on a ground program only through
membership (`stable_mem_congr`), and the specification likewise (`tsm_mem_congr`).  Permuting the
statements of a part, repeating a statement and distributing the statements over files (each keeping its
part) all preserve membership.  For theory atoms: whatever the order in which formulas and todo entries
are processed, a solution of the equation system is unique (`formula_values_order_indep`); the todo list of `Theory`
holds every requested (step, formula) pair exactly once whatever the order and multiplicity of the requests
(`todo_entries_once`, `todo_request_order_independent`; the model `addTodo` is compared with the real `add_todo`).
The layout of the *text* (directives, files starting in `base`) is clingo's parser and `transform`; it is
covered by the metamorphic search on the implementation.
-/
import TelProofs.OrderIndep
import TelProofs.Tseitin
import TelProofs.TodoProofs
import TelProofs.StepDataProofs

namespace TelProofs.C12
open TelSpec TelModel

/-- **C12** (model): same rules, same answer sets, at every horizon of the incremental run -/
theorem answer_sets_order_indep {P Q : TProg} (hm : SameRules P Q) (h : Nat) (X : Interp) :
    Stable (G P h) X ↔ Stable (G Q h) X :=
  stable_mem_congr (G_congr hm h) X

/-- **C12** (specification) -/
theorem tsm_order_indep {P Q : TProg} (hm : SameRules P Q) (h : Nat) (T : Trace) : TSM h P T ↔ TSM h Q T :=
  tsm_mem_congr hm h T

/-- reordering -/
theorem perm_same {P Q : TProg} (hp : List.Perm P Q) : SameRules P Q := fun _ => hp.mem_iff

/-- repeating a statement -/
theorem dup_same (P : TProg) (r : TRule) (hr : r ∈ P) : SameRules (r :: P) P :=
  fun _ => List.mem_cons.trans (or_iff_right_of_imp fun e => e ▸ hr)

/-- distributing over files in any order -/
theorem files_same (P1 P2 : TProg) : SameRules (P1 ++ P2) (P2 ++ P1) := by
  intro x
  simp only [List.mem_append]
  exact Or.comm

theorem perm_answer_sets {P Q : TProg} (hp : List.Perm P Q) (h : Nat) (X : Interp) :
    Stable (G P h) X ↔ Stable (G Q h) X := answer_sets_order_indep (perm_same hp) h X

theorem dup_answer_sets (P : TProg) (r : TRule) (hr : r ∈ P) (h : Nat) (X : Interp) :
    Stable (G (r :: P) h) X ↔ Stable (G P h) X := answer_sets_order_indep (dup_same P r hr) h X

/-- the values of the formula literals do not depend on the order in which theory atoms / todo entries are
    handled: any two solutions of the equation system coincide on temporal formulas -/
theorem formula_values_order_indep {h : Nat} {tr : Trace} {lv : Int → Bool} {v v' : BForm → Nat → Bool}
    {S : BForm → Nat → Prop} (s1 : Sys h tr lv v S) (s2 : Sys h tr lv v' S) (f : BForm) (ht : isTel f = true)
    (k : Nat) (hS : S f k) : v f k = v' f k :=
  s1.agree s2 (pathsNormal_of_isTel ht) hS

/-! ### non-vacuity -/
example : SameRules [(⟨.always, .choice ["a"], []⟩ : TRule), ⟨.dynamic, .atom "b" 1, [.atom .pos "a" (-1)]⟩]
                    [⟨.dynamic, .atom "b" 1, [.atom .pos "a" (-1)]⟩, ⟨.always, .choice ["a"], []⟩, ⟨.always, .choice ["a"], []⟩] := by
  intro x
  simp only [List.mem_cons, List.mem_nil_iff, or_false, or_self]
  exact Or.comm

/-- `Theory.add_todo`: after any sequence of requests the queue holds exactly the requested (step, formula) pairs, each
    once — the same sub-formula in several theory atoms or a repeated statement queues nothing twice -/
theorem todo_entries_once (ks : List TodoKey) : (todoAfter ks).Nodup ∧ ∀ x, x ∈ todoAfter ks ↔ x ∈ ks :=
  todo_exactly_once ks

/-- … and which pairs are queued does not depend on the order or multiplicity of the requests -/
theorem todo_request_order_independent (ks ks' : List TodoKey) (h : ∀ x, x ∈ ks ↔ x ∈ ks') :
    ∀ x, x ∈ todoAfter ks ↔ x ∈ todoAfter ks' :=
  todo_set_independent ks ks' h

example : todoAfter [(1, "a"), (0, "(a&b)"), (1, "a"), (1, "b"), (0, "(a&b)")] = [(1, "a"), (0, "(a&b)"), (1, "b")] := by decide +kernel

/-- The program literal that stands for a (formula, step) pair does not depend on the order or multiplicity in which the
    occurrences of the theory atom are met (statement order, duplicates, file layout decide the order of `prg.theory_atoms`):
    `StepData.add_literal` takes the smallest registered literal (model `StepData`, tied to the real methods in the check of C03). -/
theorem representative_order_independent (as bs : List Int) (fresh : Int) (hm : ∀ x, x ∈ as ↔ x ∈ bs) :
    (StepData.run {} (SD.regs as ++ [.translate (.own fresh)])).1.literal =
    (StepData.run {} (SD.regs bs ++ [.translate (.own fresh)])).1.literal :=
  SD.representative_order_independent as bs fresh hm

example : (StepData.run {} (SD.regs [7, 3, 7, 5] ++ [.translate (.own 9)])).1.literal = some 3 := by decide +kernel

end TelProofs.C12
