/-
C06 — non-ground programs mean the same as their ground instances.

telingo's own part in this is small and is what is modelled: the time argument is appended by predicate *name*
only (`TermTransformer`, transformers/term.py, modelled by `addTime` on predicate / classical negation / pool terms and
compared with the real class on random terms); the ground elements of a theory atom, with their conditions, are folded
into one formula; symbols inside theory atoms are converted back by `create_symbol`; the numeric time ranges of a
head-formula atom are merged by `IntervalSet`.  Proved:
  * `time_arg_uniform`              adding the time parameter commutes with pool expansion and classical negation: every
                                    instance of the atom term gets the parameters its own predicate name asks for, and the
                                    bookkeeping is what handling the instances one by one gives
  * `time_arg_commutes_with_substitution`  the rewriting never looks at the arguments: rewriting a schema atom and then
                                    replacing its variables is rewriting the instance (same term, bookkeeping, rejections)
  * `term_conversion_preserves_value`  `theory_term_to_term` (arguments of head-formula atoms, n-fold prefixes; transformers/head.py)
                                    keeps the value of the term under every assignment: arithmetic, constant folding, tuples
  * `aux_atom_identifies_instance`  `get_variables` (transformers/head.py): the auxiliary atom of a head formula carries exactly
                                    the formula's variables, each once, ordered by name; equal auxiliary atoms, equal instance
  * `max_shift_is_max` / `future_sign_recorded`  `max_shift` ends as the maximum look-ahead over all instances that are
                                    not replaced; every replaced instance is recorded as a future predicate with its own sign
  * `symbol_roundtrip`              `create_symbol` applied to the theory term by which clingo presents a ground symbol
                                    (numbers, strings, `#inf`/`#sup`, function symbols, tuples, classical negation, any nesting)
                                    gives that symbol back
  * `elements_sem` / `element_sem`  the formula of `&tel{ f(X) : c(X) }` after grounding is the conjunction over the
                                    ground elements of `c(x) -> f(x)`, for any number of elements in any order
  * `interval_add` / `interval_addAll`  `IntervalSet.add` keeps the sorted-disjoint invariant and the set of time
                                    points is exactly the union of the added ranges — so the domain rule built from
                                    the merged ranges of a schema covers what the ranges of each instance cover
  * `transform_commutes_with_substitution` / `program_transform_commutes_with_substitution`  the same for whole statements and
                                    programs, a statement being the sequence of its atom occurrences with the flags of their positions
                                    (everything else in the AST is copied; model `addTimeStmt`, compared with one real
                                    `TermTransformer` visiting the atoms of a statement in order): same rewritten atoms, same
                                    `future_predicates` / `max_shift` at the end, same first rejection
PARTIAL: that clingo's grounder computes the instances is the grounder's contract; that `ProgramTransformer` visits exactly the
atoms of a statement with the flags of the position table is the C11 model (`flags_table`) and its grid correspondence; the
statement level is additionally covered by the search: schema vs its own textual instantiation over a finite domain (variables, pools, intervals, arithmetic,
comparisons, conditions, aggregates, n-fold prefixes given by variables, #show/#external), equal answer sets.
-/
import TelProofs.ElementsSem
import TelProofs.IntervalProofs
import TelProofs.TimeArgProofs
import TelProofs.SymRoundTrip
import TelProofs.TimeArgSubst
import TelProofs.TermConvProofs
import TelProofs.HeadVarsProofs

namespace TelProofs.C06
open TelSpec TelModel

theorem elements_sem (h : Nat) (tr : Trace) (lv : Int → Bool) (k : Nat) (els : List TElem) (dyn : Bool) (f : BForm)
    (hf : translateElements els dyn = .ok f) :
    ∃ ws, els.mapM (fun e => elemFormula e dyn) = .ok ws ∧ f.sem h tr lv k = ws.all fun w => w.sem h tr lv k :=
  TelProofs.elements_sem h tr lv k els dyn f hf

theorem element_sem (h : Nat) (tr : Trace) (lv : Int → Bool) (k : Nat) (e : TElem) (dyn : Bool) (f w : BForm)
    (hf : (if dyn then createDynamicFormula e.term else createFormula e.term) = .ok f)
    (hw : elemFormula e dyn = .ok w) : w.sem h tr lv k = (!(e.cond.all lv) || f.sem h tr lv k) :=
  TelProofs.element_sem h tr lv k e dyn f w hf hw

theorem interval_add (s : List Ival) (y : Ival) (hs : IvSorted s) :
    IvSorted (IntervalSet.add s y) ∧
    ∀ x, IntervalSet.memPoint (IntervalSet.add s y) x = (IntervalSet.memPoint s x || Ival.mem x y) :=
  add_spec s y hs

/-- adding any sequence of ranges: invariant kept, members = union of the ranges -/
theorem interval_addAll (ys : List Ival) : ∀ (s : List Ival), IvSorted s →
    IvSorted (ys.foldl IntervalSet.add s) ∧
    ∀ x, IntervalSet.memPoint (ys.foldl IntervalSet.add s) x = (IntervalSet.memPoint s x || ys.any (Ival.mem x)) :=
  addAll_spec ys

/-- the time parameter is added uniformly -/
theorem time_arg_uniform (rf ff fp : Bool) (t : ATerm) (pos : Bool) (st : TState) (t' : RTerm) (st' : TState)
    (h : addTime rf ff fp pos st t = .ok (t', st')) :
    (t.insts pos).mapM (stamp rf ff fp) = .ok (t'.insts pos) ∧ stampState rf ff fp st (t.insts pos) = .ok st' :=
  addTime_insts rf ff fp t pos st t' st' h

/-- **rewriting commutes with substitution** on the term of an atom: replacing variables (any map `σ` on the argument
    texts) before or after the rewriting gives the same term, the same bookkeeping and the same rejections -/
theorem time_arg_commutes_with_substitution (rf ff fp : Bool) (σ : String → String) (t : ATerm) (pos : Bool) (st : TState) :
    addTime rf ff fp pos st (ATerm.substArgs σ t) =
      (addTime rf ff fp pos st t).map (fun p => (RTerm.substArgs σ p.1, p.2)) :=
  addTime_subst rf ff fp σ t pos st

/-- non-vacuity: `-p'(X) ; q(X,Y)` in a normal head with X ↦ 1, Y ↦ 2 -/
example : addTime true false true true {} (ATerm.substArgs (fun v => if v == "X" then "1" else "2")
            (.pool [.neg (.fn "p'" ["X"]), .fn "q" ["X", "Y"]])) =
          .ok (.pool [.neg (.fn "__future_p" ["1"] [.num 1, .time 1]), .fn "q" ["1", "2"] [.time 0]],
               { futures := [("p", 1, false, 1)], maxShift := 0 }) := by rfl

/-- **arithmetic inside head formulas**: `theory_term_to_term` (the arguments of the atoms of a head formula, the prefix
    of an n-fold next) turns a theory term into a plain term that has, under every assignment of the variables, the value
    the theory term reads — `-` / `+` as arithmetic with constants folded, tuples as tuples, function symbols as such -/
theorem term_conversion_preserves_value (tbl : List Generated.OpEntry) (σ : String → GVal) (t : HTerm) (p : PTerm)
    (h : convTerm tbl t = .ok p) : p.eval σ = t.eval σ :=
  conv_preserves tbl σ t p h

/-- non-vacuity: `p(X-2+1, (2+3)-X, (1,2))` with X ↦ 5 -/
example :
    (convTerm Generated.headTablePy (.fn "p" [.fn "+" [.fn "-" [.var "X", .num 2], .num 1], .fn "-" [.fn "+" [.num 2, .num 3], .var "X"],
        .tuple [.num 1, .num 2]])).toOption.bind (PTerm.eval (fun _ => .num 5)) =
      some (.fn "p" [.num 4, .num 0, .fn "" [.num 1, .num 2] true] true) := by rfl

/-- **variables of a head formula pass through the auxiliary atom**: `get_variables` returns exactly the variables that
    occur in the theory atom, each once, in the order of their names; so two ground instances of a rule `&tel{φ} :- B` whose
    auxiliary atoms `__aux_i(vars, t)` coincide have the same head formula — every instance of the rule keeps its own φ -/
theorem aux_atom_identifies_instance (t : HTerm) :
    (∀ x, x ∈ getVariables t ↔ x ∈ t.varsOf) ∧ (getVariables t).Pairwise (· < ·) ∧
    ∀ σ σ' : String → HTerm, (getVariables t).map σ = (getVariables t).map σ' → t.subst σ = t.subst σ' :=
  ⟨mem_getVariables t, getVariables_sorted t, aux_identifies_instance t⟩

/-- non-vacuity: `&tel { > p(Y, f(X)) | q(X) }` -/
example : getVariables (.fn "|" [.fn ">" [.fn "p" [.var "Y", .fn "f" [.var "X"]]], .fn "q" [.var "X"]]) = ["X", "Y"] := by decide +kernel

/-- `max_shift` after an atom term: at least every look-ahead that is not replaced, and attained -/
theorem max_shift_is_max (rf ff fp : Bool) (t : ATerm) (st : TState) (t' : RTerm) (st' : TState)
    (h : addTime rf ff fp true st t = .ok (t', st')) :
    (∀ i ∈ t.insts true, ∀ r, getParam i.name rf ff fp = .ok r → r.shift > 0 → r.future = false → r.shift ≤ st'.maxShift) ∧
    (st'.maxShift = st.maxShift ∨
      ∃ i ∈ t.insts true, ∃ r, getParam i.name rf ff fp = .ok r ∧ r.shift > 0 ∧ r.future = false ∧ r.shift = st'.maxShift) := by
  have hs := (addTime_insts rf ff fp t true st t' st' h).2
  exact ⟨stampState_maxShift_covers hs, stampState_maxShift_attained hs⟩

/-- future predicates are recorded per instance, with the sign the classical negations above it give -/
theorem future_sign_recorded (rf ff fp : Bool) (t : ATerm) (st : TState) (t' : RTerm) (st' : TState)
    (h : addTime rf ff fp true st t = .ok (t', st')) :
    ∀ i ∈ t.insts true, ∀ r, getParam i.name rf ff fp = .ok r → r.shift > 0 → r.future = true →
      ((r.name.drop Generated.futurePrefix.length).toString, i.args.length, i.positive, r.shift) ∈ st'.futures :=
  stampState_futures (addTime_insts rf ff fp t true st t' st' h).2

/-- `create_symbol` gives back the symbol clingo presented -/
theorem symbol_roundtrip (s : Sym) (h : okSym s = true) : createSymbol (symTerm s) = .ok s := sym_roundtrip s h

/-! ### non-vacuity -/
example : (ATerm.pool [.fn "p''" ["1"], .neg (.fn "q'" ["X", "2"])]).insts true = [⟨true, "p''", ["1"]⟩, ⟨false, "q'", ["X", "2"]⟩] := rfl
example : IvSorted [⟨0, 2⟩, ⟨4, 5⟩] := by simp [IvSorted]
example : IntervalSet.add [⟨0, 2⟩, ⟨4, 5⟩] ⟨2, 4⟩ = [⟨0, 5⟩] := by decide

/-- **rewriting commutes with substitution on whole statements**: a statement is the sequence of its atom occurrences, each with
    the flags of its position; the bookkeeping is threaded through in visit order -/
theorem transform_commutes_with_substitution (σ : String → String) (os : List AtomOcc) (st : TState) :
    addTimeStmt (os.map (AtomOcc.subst σ)) st =
      (addTimeStmt os st).map (fun p => (p.1.map (RTerm.substArgs σ), p.2)) :=
  addTimeStmt_subst σ os st

/-- … and on programs: the future predicates and the maximal look-ahead recorded for a schema program are those of every
    instantiation -/
theorem program_transform_commutes_with_substitution (σ : String → String) (ss : List (List AtomOcc)) (st : TState) :
    addTimeProg (ss.map (List.map (AtomOcc.subst σ))) st =
      (addTimeProg ss st).map (fun p => (p.1.map (List.map (RTerm.substArgs σ)), p.2)) :=
  addTimeProg_subst σ ss st

end TelProofs.C06
