/-
C01 — core temporal rules yield exactly the temporal stable models at every horizon.

Specification: `TelSpec.TSM h P T` — temporal stable models (temporal equilibrium logic on traces of
length h+1) of a ground temporal program of the typed fragment.
Model: `TelModel.G P h` — what clingo holds after the incremental history of steps 0..h as `imain`
drives it: per step the instances of the parts selected by the *generated* `partCond`, atoms unknown
at grounding time frozen to false, `__initial(0)`, `__final(h)` the only true external.
Theorem: for every program of the core fragment (every head form × body literal form × part) and
every horizon, the stable models of `G P h` are exactly the embeddings of the temporal stable models.
-/
import TelProofs.FullEquiv
import TelModel.Generated.Directive
import TelProofs.Enumerator

namespace TelProofs.C01
open TelSpec TelModel TelModel.Generated

/-- E2: the part-selection test of `imain`, as regenerated from the source, selects exactly
    always for `t ≥ 0`, dynamic for `t > 0`, initial for `t = 0` (with `t = step - i`) -/
theorem partCond_spec (root : String) (step i : Int) :
    partCond root step i = true ↔
      (root = "always" ∧ 0 ≤ step - i) ∨ (root = "dynamic" ∧ 0 < step - i) ∨ (root = "initial" ∧ step - i = 0) :=
  TelProofs.partCond_spec root step i

/-- the `ground` call of `imain` at step `s` (layer L2 call log) instantiates exactly the part
    instances the ground-program model uses -/
theorem ground_call_eq (P : TProg) (s : Nat) :
    groundParts (partsOf P) s = (selected P s).map fun pt => ⟨pt.1.name, pt.2, (s : Int)⟩ :=
  groundParts_eq_selected P s

/-- the part name as written in a `#program` directive -/
def partName : Part → String
  | .initial => "initial" | .always => "always" | .dynamic => "dynamic" | .final => "final"

/-- E11: `visit_Program`, as regenerated from the source, says what the documentation says: `final` becomes `always`
    with the final flag set, `base` is `initial`, every other name is kept, no flag -/
theorem directive_spec (n : String) :
    Generated.visitProgram n =
      if n = "final" then ("always", true, "always") else if n = "base" then ("initial", false, "initial") else (n, false, n) := by
  unfold Generated.visitProgram
  by_cases h1 : n = "final"
  · subst h1
    decide
  · by_cases h2 : n = "base"
    · subst h2
      decide
    · simp [h1, h2]

/-- … and the model's rule classification (`rootOf`, the `__final(t)` literal added exactly for the final part) is what
    that directive handling does to the four parts -/
theorem directive_parts (p : Part) :
    Generated.visitProgram (partName p) = ((rootOf p).name, p == .final, (rootOf p).name) := by
  cases p <;> decide

theorem directive_base : Generated.visitProgram "base" = ("initial", false, "initial") := by decide

/-- a ground instance at time `k` means what the temporal rule means at position `k` -/
theorem instance_reading (h : Nat) (W T : Trace) (k : Nat) (hk : k ≤ h) (r : TRule) (hc : ruleCore r = true) :
    (match instAt k (k : Int) none r with
     | some r' => r'.sat (embed h W) (embed h T)
     | none => true) =
    (!(r.body.all (BLit.holds h W T k) && (if r.part == .final then k == h else true)) || r.head.holds h W T k) := by
  have hrf := ruleCore_fut hc
  simp only [ruleCore, Bool.and_eq_true] at hc
  have hwin : ShiftsLe r (k - k) := shiftsLe_of_litCore hc.2 fun _ _ _ hh => by simp [hh, headCore] at hc
  have := instSat_val (embed_agrees h W) (embed_agrees h T) (Nat.le_refl k) hk none hrf fun _ _ => Or.inr hwin
  have hhead : headVal (embed h W) h W T k r.head = r.head.holds h W T k :=
    (headVal_cases _ h W T k r.head).resolve_left fun ⟨a, n, hh, _⟩ => by simp [hh, headCore] at hc
  rw [hhead, Option.all_none, Bool.and_true, finOK] at this
  rw [← this]
  cases instAt k (k : Int) none r <;> rfl

/-- **C01**: at every horizon `h`, reached through the incremental history `0..h`, the stable models of
    the accumulated ground program are exactly the temporal stable models (no unsupported atom, no
    missing or extra trace). -/
theorem C01_core (P : TProg) (hc : progCore P = true) (h : Nat) :
    (∀ X, Stable (G P h) X → TSM h P (traceOf X) ∧ X = embed h (traceOf X)) ∧
    (∀ T, TSM h P T → Stable (G P h) (embed h T)) :=
  core_stable_iff P hc h

/-- projected to user atoms: the traces of the answer sets at horizon `h` are the temporal stable models -/
theorem C01_traces (P : TProg) (hc : progCore P = true) (h : Nat) (T : Trace) :
    (∃ X, Stable (G P h) X ∧ TraceEq h (traceOf X) T) ↔ (∃ T', TSM h P T' ∧ TraceEq h T' T) :=
  full_traces P (progCore_fut hc) h T

/-- the oracle of the searches is the specification: `telspec tsm` prints exactly the masks whose trace is a (consistent)
    temporal stable model — for programs with any rule heads incl. `&tel` head formulas and body literals incl. `&tel`,
    over the enumerated atoms, at every horizon (used by the searches of C01, C02, C04, C06, C09, C12, C13, C17) -/
theorem enumerator_is_spec (atoms : List String) (h : Nat) (P : TProg) (hnd : atoms.Nodup)
    (hP : ∀ r ∈ P, ruleOver atoms r = true) (m : Nat) :
    m ∈ tsmMasks h atoms P ↔
      m < 2 ^ (atoms.length * (h + 1)) ∧ TSM h P (maskTrace atoms m) ∧ consistent h atoms (maskTrace atoms m) = true :=
  mem_tsmMasks atoms h P hnd hP m

/-- … and it prints all of them: every consistent temporal stable model appears (as the mask of its trace) -/
theorem enumerator_complete (atoms : List String) (h : Nat) (P : TProg) (hnd : atoms.Nodup)
    (hP : ∀ r ∈ P, ruleOver atoms r = true) (T : Trace) (hT : TSM h P T) (hc : consistent h atoms T = true) :
    traceMask atoms h T ∈ tsmMasks h atoms P ∧ TraceEq h (maskTrace atoms (traceMask atoms h T)) T :=
  tsm_enumerated atoms h P hnd hP T hT hc

/-! ### non-vacuity -/
example : ruleOver ["a", "b"] ⟨.dynamic, .disj ["a", "b"], [.atom .not "a" (-1), .tel .notnot (.since (.atom "a") (.atom "b"))]⟩ = true := by decide

/-- a program using past atoms, `_p`, `&final`, disjunction, choice, all four parts is in the fragment -/
example : progCore [⟨.initial, .choice ["a", "b"], []⟩,
                    ⟨.dynamic, .disj ["a", "b"], [.atom .not "a" (-1), .init .notnot "b"]⟩,
                    ⟨.always, .atom "c" 0, [.atom .pos "a" (-2), .kw .not .kinitial]⟩,
                    ⟨.final, .falsum, [.atom .pos "c" 0, .kw .pos .kfinal]⟩] = true := by decide

end TelProofs.C01
