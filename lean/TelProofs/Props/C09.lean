/-
C09 — every reported answer set is a well-formed finite trace.

Statements about every stable model `X` of `G P h`, the model's accumulated ground program after the
incremental history of steps 0..h (built through the *generated* `partCond`, `assumeCond`; `__final(h)`
is the only true external): time stamps lie in 0..h, exactly state 0 is initial and exactly state h is
final, and a `__future_*` atom is accompanied by its target atom.  For every program of the typed rule
fragment (any heads, any look-ahead depth, any part), every horizon.
-/
import TelProofs.GroundLemmas

namespace TelProofs.C09
open TelSpec TelModel

/-- a true atom occurs in the head of some rule -/
theorem supported (P : TProg) (h : Nat) (X : Interp) (hs : Stable (G P h) X) (a : GAtom) (hx : X a = true) :
    ∃ r ∈ G P h, a ∈ r.head :=
  let ⟨r, hr, ha, _⟩ := stable_supported_body hs hx
  ⟨r, hr, ha⟩

/-- every time-stamped user atom of an answer set lies inside the trace -/
theorem times_in_range (P : TProg) (h : Nat) (X : Interp) (hs : Stable (G P h) X) (a : String) (k : Int)
    (hx : X (.user a k) = true) : 0 ≤ k ∧ k ≤ (h : Int) :=
  (stable_shape hs).1 a k hx

/-- exactly state 0 is marked initial -/
theorem initial_exact (P : TProg) (h : Nat) (X : Interp) (hs : Stable (G P h) X) (k : Int) :
    X (.initial k) = true ↔ k = 0 :=
  (stable_shape hs).2.1 k

/-- exactly state `h` is marked final -/
theorem final_exact (P : TProg) (h : Nat) (X : Interp) (hs : Stable (G P h) X) (k : Int) :
    X (.final k) = true ↔ k = (h : Int) :=
  (stable_shape hs).2.2 k

/-- an atom derived through a future head is present at its target state whenever its auxiliary
    `__future_*` atom is; and no `__future_*` atom beyond the horizon is true (none stale). -/
theorem future_target (P : TProg) (h : Nat) (X : Interp) (hs : Stable (G P h) X) (a : String) (n : Nat) (k : Int)
    (hx : X (.future a n k) = true) : k ≤ (h : Int) ∧ X (.user a k) = true :=
  stable_future_target hs hx

/-! ### non-vacuity: a program with all kinds of heads has the structure the lemmas use -/

example : (G [⟨.always, .choice ["a"], []⟩, ⟨.dynamic, .atom "b" 1, [.atom .pos "a" (-1)]⟩,
              ⟨.always, .falsum, [.atom .pos "a" 1, .atom .not "b" 0]⟩] 1).length = 9 := by decide +kernel

end TelProofs.C09
