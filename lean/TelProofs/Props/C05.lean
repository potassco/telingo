/-
C05 — `&del` formulas are evaluated with linear dynamic logic on finite traces.

`TelSpec.ldlSem` is LDL_f (`runs` = the relation of a path expression on positions 0..h; diamond =
some run, box = every run).  `createDynamicFormula`/`createPath` transcribe body.py; `eqn` transcribes
the `translate_*Path` methods of DiamondFormula/BoxFormula.  The theorems say: under the documented
normal form the translation's equations have the LDL_f semantics as their only solution.
-/
import TelProofs.DelDocEq
import TelProofs.DelNecessity

namespace TelProofs.C05
open TelSpec TelModel

/-- runs never leave the trace and never go backwards (model paths) -/
theorem runs_within (h : Nat) (tr : Trace) (p : Path) (k j : Nat) (hr : p.runs h tr k j = true) :
    k ≤ j ∧ (k ≤ h → j ≤ h) :=
  bounded_iff.1 (runs_bounded p) k j hr

/-- … and the same for specification-level path expressions -/
theorem spec_runs_within (h : Nat) (tr : Trace) (p : DPath) (hg : GoodP p) (k j : Nat)
    (hr : runs h tr p k j = true) : k ≤ j ∧ (k ≤ h → j ≤ h) := by
  rw [← mpath_runs h tr p hg] at hr
  exact runs_within h _ _ k j hr

/-- the code's construction of dynamic formulas has the LDL_f semantics and preserves normal form -/
theorem del_doc_eq (s : DForm) (hg : GoodD s) :
    ∃ f, createDynamicFormula (toTermD s) = .ok f ∧ (s.normal = true → isDel f = true) ∧
      ∀ (h : Nat) (tr : Trace) (lv : Int → Bool) (k : Nat), k ≤ h →
        f.sem h (withAdmin h tr) lv k = ldlSem h tr s k :=
  TelProofs.del_doc_eq s hg

/-- unique solution of the Diamond/Box equations, any nesting, any horizon -/
theorem del_unique {h : Nat} {tr : Trace} {lv : Int → Bool} {v : BForm → Nat → Bool}
    {S : BForm → Nat → Prop} (sys : Sys h tr lv v S) (f : BForm) (hd : isDel f = true) (k : Nat) (hS : S f k) :
    v f k = f.sem h tr lv k :=
  TelProofs.del_unique sys f hd k hS

/-- For every dynamic formula in normal form, at every horizon, the literal attached to `&del{s}` at
    state `k` has the LDL_f value of `s` at `k`. -/
theorem C05_value (s : DForm) (hg : GoodD s) (hn : s.normal = true) :
    ∃ f, createDynamicFormula (toTermD s) = .ok f ∧
      ∀ (h : Nat) (tr : Trace) (lv : Int → Bool) (v : BForm → Nat → Bool) (S : BForm → Nat → Prop),
        Sys h (withAdmin h tr) lv v S → ∀ k, S f k → v f k = ldlSem h tr s k :=
  ⟨mdyn s, createDynamicFormula_toTermD s hg, fun _ _ _ _ _ sys _ hS => mdyn_value s hg hn sys hS⟩

/-- The normal form is needed: for `<(a?)*> b` (iteration over a test) at horizon 1 on the trace `{a},{}` the equations the
    code writes have two solutions, one of them different from the LDL_f value.  The implementation shows exactly this
    (two answer sets for that trace; `excluded_point` in tools/props/c05.py), and the README demands the normal form. -/
theorem normal_form_necessary :
    ∃ (f : BForm) (h : Nat) (t : Trace) (lv : Int → Bool) (w : BForm → Nat → Bool) (T : BForm → Nat → Prop),
      Sys h t lv w T ∧ T f 0 ∧ w f 0 ≠ f.sem h t lv 0 ∧
      (∀ g k, T g k → g.sem h t lv k = (eqn h g k).eval t lv (fun g j => g.sem h t lv j)) := by
  obtain ⟨f, h, t, lv, w, T, sys, hT, hne⟩ := DelNecessity.normal_form_necessary
  exact ⟨f, h, t, lv, w, T, sys, hT, hne, fun g k hg => sem_eqn (sys.bound g k hg)⟩

/-! ### non-vacuity -/

/-- `<(a? ; T)*> b` of the README is in normal form and meets the hypotheses -/
example : GoodD (.dia (.star (.seq (.test (.atom "a")) .skip)) (.atom "b")) ∧
    (DForm.dia (.star (.seq (.test (.atom "a")) .skip)) (.atom "b")).normal = true := by
  refine ⟨?_, rfl⟩
  simp [GoodD, GoodP, GoodT, GoodAtom]
  decide

/-- iteration over a test alone is not in normal form -/
example : (DForm.dia (.star (.test (.atom "a"))) (.atom "b")).normal = false := rfl

/-- on the trace a,a,b the formula holds at 0, and `&final` holds exactly at the last state -/
example : ldlSem 2 (fun k x => (k < 2 && x == "a") || (k == 2 && x == "b"))
    (.dia (.star (.seq (.test (.atom "a")) .skip)) (.atom "b")) 0 = true := by rfl

end TelProofs.C05
