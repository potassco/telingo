/-
C11 — unsupported placements of temporal constructs are rejected, all others accepted.

  * `flags_table`    at every syntactic position the flag expressions regenerated from `visit_SymbolicAtom`
                     (E7), applied to the traversal state of that position, say exactly what the documentation
                     says: future atoms fail unless (normal head ∨ inside a constraint); past / initially atoms
                     fail exactly in positive head positions
  * `accept_regular` `__get_param` on a name `'^l core '^t`: the shift is `t - l`; rejected iff (fail_future ∧
                     t > l) ∨ (fail_past ∧ t < l); otherwise accepted, renamed to `__future_core` iff future and
                     replace_future
  * `prime_uniform`  adding one prime at both ends changes nothing (`'p''` = `p'`, `''p'` = `'p`)
  * `reject_iff`     the two combined: rejection exactly for the documented placements
  * `accepts_iff_doc` the same against the specification function `TelSpec.docAccepts`
  * `theory_guard`   `&tel` / `&del` body atoms are rejected exactly in a positive body literal of a non-constraint
  * `element_terms_guard`  a theory element of a body `&tel` or a `&del` atom is rejected exactly if it has not exactly one term (E13)
  * `flags_from_classification` / `classification_spec`  the `constraint` and `normal` columns of the position table are the
                     values of `is_constraint` / `is_normal` (E8, regenerated from the source) on the statement the position
                     lives in
The `head` column of `Position.flags` (the traversal state per position) and the statement shape per position are
hand-transcribed and validated against the real `transform` on the full position × atom-form grid (every run), in the always
and the final part.
-/
import TelProofs.RejectProofs

namespace TelProofs.C11
open TelSpec TelModel TelModel.Generated

theorem flags_table (pos : Position) :
    failFuture pos.flags.head pos.flags.constraint pos.flags.normal = !(pos.isNormalHead || pos.inConstraint) ∧
    failPast pos.flags.head pos.flags.constraint pos.flags.normal = pos.isPositiveHead ∧
    replaceFuture pos.flags.head pos.flags.constraint pos.flags.normal = pos.isPositiveHead := by
  cases pos <;> decide

/-- the `constraint` and `normal` columns of the position table are what `is_constraint` / `is_normal` (E8, regenerated
    from transformers/transformer.py; `visit_Rule` sets the flags from them) say about the statement the position lives in;
    outside rules the flags keep their reset value `false` -/
theorem flags_from_classification (pos : Position) :
    pos.flags.constraint = pos.stmt.isConstraint ∧ pos.flags.normal = pos.stmt.isNormal := by
  cases pos <;> decide

/-- what the two classifiers mean: a constraint is a rule whose head is the literal `#false` or a literal with a sign; a
    normal rule is a rule whose head is a positive symbolic literal — never both -/
theorem classification_spec (s : StmtShape) :
    s.isConstraint = (s.isRule && s.headIsLiteral && ((s.atomIsBoolConst && !s.atomValue) || !s.signNone)) ∧
    s.isNormal = (s.isRule && s.headIsLiteral && s.signNone && s.atomIsSymbolic) ∧
    (s.atomIsBoolConst && s.atomIsSymbolic = false → (s.isConstraint && s.isNormal) = false) := by
  obtain ⟨a, b, c, d, e, f⟩ := s
  revert a b c d e f
  decide

theorem theory_guard (negated constraintRule : Bool) :
    telBodyAccepted negated constraintRule = (negated || constraintRule) ∧
    delBodyAccepted negated constraintRule = (negated || constraintRule) := by
  cases negated <;> cases constraintRule <;> decide

/-- a theory element is rejected (with a RuntimeError) exactly if it does not carry exactly one term — in a body `&tel` atom
    and in a `&del` atom alike (E13, regenerated from `visit_TheoryAtom`) -/
theorem element_terms_guard (n : Nat) :
    telElemRejected (n : Int) = (n != 1) ∧ delElemRejected (n : Int) = (n != 1) := by
  unfold telElemRejected delElemRejected
  -- whatever equivalent spelling of the test is regenerated (`!=`, `not … ==`, `> 1 or < 1`): as propositions over the integers
  constructor
  all_goals
    rw [Bool.eq_iff_iff]
    simp <;> omega

/-- the core is not an initially / finally form: it does not start with a single `_` nor end with one -/
def PlainCore (core : List Char) : Prop :=
  (startsWithStr core ['_'] && !(startsWithStr core ['_', '_'])) = false ∧
  (endsWithStr core ['_'] && !(endsWithStr core ['_', '_'])) = false

/-- `__get_param` on `'^l core '^t` -/
theorem accept_regular (l t : Nat) (core : List Char) (hc : CleanCore core) (hp : PlainCore core) (rf ff fp : Bool) :
    getParamL (primes l ++ core ++ primes t) rf ff fp =
      if ff && decide ((t : Int) - (l : Int) > 0) then .error (.runtime "future atoms not supported in this context")
      else if fp && decide ((t : Int) - (l : Int) < 0) then .error (.runtime "past atoms not supported in this context")
      else .ok { name := (if decide ((t : Int) - (l : Int) > 0) && rf then futurePrefix else "") ++ String.ofList core,
                 shift := (t : Int) - (l : Int), initially := false,
                 future := decide ((t : Int) - (l : Int) > 0) && rf } := by
  unfold getParamL
  -- the shift `-l + (|name| - |core|) - l` with `|name| = l + |core| + t`
  have hs : -(l : Int) + (((primes l ++ core ++ primes t).length : Int) - (core.length : Int)) + -(l : Int) = (t : Int) - (l : Int) := by
    simp only [primes, List.length_append, List.length_replicate]
    omega
  simp only [stripPrimes_spec l t core hc, leadingPrimes_spec l t core hc, hs, hp.1, hp.2, Bool.false_and, Bool.false_eq_true,
    if_false, Bool.or_false]
  rfl

/-- prime arithmetic is uniform: one more prime on both sides means the same atom -/
theorem prime_uniform (l t : Nat) (core : List Char) (hc : CleanCore core) (hp : PlainCore core) (rf ff fp : Bool) :
    getParamL (primes (l+1) ++ core ++ primes (t+1)) rf ff fp = getParamL (primes l ++ core ++ primes t) rf ff fp := by
  rw [accept_regular (l+1) (t+1) core hc hp, accept_regular l t core hc hp]
  have : ((t + 1 : Nat) : Int) - ((l + 1 : Nat) : Int) = (t : Int) - (l : Int) := by omega
  rw [this]

/-- **rejection exactly for the documented placements**: an atom `'^l core '^t` at a position is rejected iff it
    is a future atom (t > l) outside a normal-rule head or constraint, or a past atom (t < l) in a positive head
    position; otherwise it is accepted with time offset `t - l` -/
theorem reject_iff (pos : Position) (l t : Nat) (core : List Char) (hc : CleanCore core) (hp : PlainCore core) :
    (∃ r, getParamL (primes l ++ core ++ primes t)
        (replaceFuture pos.flags.head pos.flags.constraint pos.flags.normal)
        (failFuture pos.flags.head pos.flags.constraint pos.flags.normal)
        (failPast pos.flags.head pos.flags.constraint pos.flags.normal) = .ok r ∧ r.shift = (t : Int) - (l : Int)) ↔
    ¬ ((l < t ∧ ¬ (pos.isNormalHead = true ∨ pos.inConstraint = true)) ∨ (t < l ∧ pos.isPositiveHead = true)) := by
  obtain ⟨h1, h2, _⟩ := flags_table pos
  rw [accept_regular l t core hc hp, h1, h2]
  simp only [ite_error_eq_ok, Except.ok.injEq, Bool.and_eq_true, decide_eq_true_eq, not_or, Bool.not_eq_true',
    ← Bool.not_eq_true, Bool.or_eq_true]
  constructor
  · rintro ⟨r, ⟨h1, h2, rfl⟩, _⟩
    exact ⟨fun h => h1 ⟨h.2, by omega⟩, fun h => h2 ⟨h.2, by omega⟩⟩
  · rintro ⟨h1, h2⟩
    exact ⟨_, ⟨fun h => h1 ⟨by omega, h.1⟩, fun h => h2 ⟨by omega, h.1⟩, rfl⟩, rfl⟩

/-- the same, against the specification function `TelSpec.docAccepts` -/
theorem accepts_iff_doc (pos : Position) (l t : Nat) (core : List Char) (hc : CleanCore core) (hp : PlainCore core) :
    (∃ r, getParamL (primes l ++ core ++ primes t)
        (replaceFuture pos.flags.head pos.flags.constraint pos.flags.normal)
        (failFuture pos.flags.head pos.flags.constraint pos.flags.normal)
        (failPast pos.flags.head pos.flags.constraint pos.flags.normal) = .ok r ∧ r.shift = (t : Int) - (l : Int)) ↔
    docAccepts pos l t = true := by
  rw [reject_iff pos l t core hc hp]
  simp only [docAccepts, Bool.not_eq_true', ← Bool.not_eq_true, Bool.or_eq_true, Bool.and_eq_true, decide_eq_true_eq]

/-! ### non-vacuity -/
example : CleanCore "p".toList ∧ PlainCore "p".toList := by
  refine ⟨⟨by decide, ?_, ?_⟩, by decide, by decide⟩
  all_goals
    intro c h
    simp at h
    subst h
    decide
example : CleanCore "__aux".toList ∧ PlainCore "__aux".toList := by
  refine ⟨⟨by decide, ?_, ?_⟩, by decide, by decide⟩
  all_goals
    intro c h
    simp at h
    subst h
    decide
/-- `''p'` at a body position means `'p` -/
example : getParam "''p'" false false false = getParam "'p" false false false := by
  -- the strings as lists of characters first: comparing the two runs would decode them again at every use
  simp only [getParam, String.reduceToList]
  rfl
example : (acceptsAtom .disjElem "p'").toBool = false ∧ (acceptsAtom .normalHead "p'").toBool = true ∧
    (acceptsAtom .consLit "p''").toBool = true ∧ (acceptsAtom .choiceElem "'p").toBool = false := by decide +kernel

end TelProofs.C11
