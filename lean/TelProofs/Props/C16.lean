/-
C16 — documented abbreviations and dualities of the language hold in every context.

Each law is an equivalence of the specification semantics: `Eqv` (every world of every THT
interpretation — valid in heads and bodies) or `EqvT` (total traces — bodies).  The laws of the
temporal operators are identities about Boolean sequences (`Quant.lean`), which `tht` instantiates by
definition.  `in_every_context` (for `Eqv`) and `in_every_body_context` (for `EqvT`) lift a law to every
sub-formula position of every context; `mirror_symmetry` exchanges past and future operators on the reversed
trace.  `code_level` transports the result to the formulas the code builds (`mform`, through
`createFormula_toTerm` and `sem_mform`), whose literals have these values by C03.
-/
import TelProofs.Laws
import TelProofs.DocEq

namespace TelProofs.C16
open TelSpec TelModel

theorem law_false (h) : Eqv h (.kw .kfalse) (.neg (.kw .ktrue)) :=
  fun _ _ _ _ => rfl
theorem law_initial (h) : Eqv h (.kw .kinitial) (.neg (.prev 1 false (.kw .ktrue))) :=
  fun _ _ k _ => by cases k <;> rfl
theorem law_final (h) : Eqv h (.kw .kfinal) (.neg (.next 1 false (.kw .ktrue))) := by
  intro W T k hk
  show (k == h) = !(if k + 1 ≤ h then true else false)
  by_cases hkh : k + 1 ≤ h
  · rw [if_pos hkh]
    exact beq_false_of_ne (Nat.ne_of_lt hkh)
  · obtain rfl : k = h := Nat.le_antisymm hk (Nat.not_lt.mp hkh)
    rw [if_neg hkh]
    exact beq_self_eq_true k
theorem law_initially (h p) : Eqv h (.initially p) (.alP (.bin .or (.neg (.kw .kinitial)) p)) :=
  fun W T k _ => (alPB_initial (tht h W T p) k).symm
theorem law_finally (h p) : Eqv h (.finally_ p) (.alF (.bin .or (.neg (.kw .kfinal)) p)) :=
  fun W T k hk => (alFB_final h (tht h W T p) k hk).symm
theorem law_seq_next (h w a b) : Eqv h (.seqNext w a b) (.bin .and a (.next 1 w b)) :=
  fun _ _ _ _ => rfl
theorem law_seq_prev (h w a b) : Eqv h (.seqPrev w a b) (.bin .and (.prev 1 w a) b) :=
  fun _ _ _ _ => rfl
theorem law_next_zero (h w p) : Eqv h (.next 0 w p) p :=
  fun _ _ _ hk => if_pos hk
theorem law_prev_zero (h w p) : Eqv h (.prev 0 w p) p :=
  fun _ _ k _ => if_pos (Nat.zero_le k)
/-- nested nexts of the same strength add up: `m > (n > p)` is `(m+n) > p` -/
theorem law_next_add (h m n w p) : Eqv h (.next m w (.next n w p)) (.next (m + n) w p) := by
  intro W T k _
  simp only [tht, ← Nat.add_assoc]
  split
  · rfl
  · next hkm => rw [if_neg fun hle => hkm (Nat.le_trans (Nat.le_add_right (k + m) n) hle)]
theorem law_prev_add (h m n w p) : Eqv h (.prev m w (.prev n w p)) (.prev (m + n) w p) := by
  intro W T k _
  simp only [tht, Nat.sub_add_eq]
  split
  · next hmk => simp only [Nat.le_sub_iff_add_le' hmk]
  · next hmk => rw [if_neg fun hle => hmk (Nat.le_trans (Nat.le_add_right m n) hle)]
/-- `n+1 > p` is `> (n > p)`: an n-fold next is n nested nexts -/
theorem law_next_nested (h n w p) : Eqv h (.next (n+1) w p) (.next 1 w (.next n w p)) :=
  fun W T k hk => by rw [Nat.add_comm n 1, law_next_add h 1 n w p W T k hk]
theorem law_prev_nested (h n w p) : Eqv h (.prev (n+1) w p) (.prev 1 w (.prev n w p)) :=
  fun W T k hk => by rw [Nat.add_comm n 1, law_prev_add h 1 n w p W T k hk]
/-- the n-fold abbreviation is for operators of one strength only: `> >: p` is not `2 > p`, `< <: p` is not `2 < p`
    (on the two-state trace a strong next of a weak next is true at the first state, whatever the operand, and a
    strong previous of a weak previous at the last) -/
theorem no_law_mixed_next : ¬ EqvT 1 (.next 1 false (.next 1 true (.atom "p"))) (.next 2 false (.atom "p")) :=
  fun e => Bool.noConfusion (e (fun _ _ => false) 0 (Nat.zero_le 1))
theorem no_law_mixed_prev : ¬ EqvT 1 (.prev 1 false (.prev 1 true (.atom "p"))) (.prev 2 false (.atom "p")) :=
  fun e => Bool.noConfusion (e (fun _ _ => false) 1 (Nat.le_refl 1))
theorem law_eventually (h p) : Eqv h (.evF p) (.unt (.kw .ktrue) p) :=
  fun W T k _ => evFB_eq_untilB h (tht h W T p) k
theorem law_always (h p) : Eqv h (.alF p) (.rel (.kw .kfalse) p) :=
  fun W T k _ => alFB_eq_releaseB h (tht h W T p) k
theorem law_eventually_past (h p) : Eqv h (.evP p) (.since (.kw .ktrue) p) :=
  fun W T k _ => evPB_eq_sinceB (tht h W T p) k
theorem law_always_past (h p) : Eqv h (.alP p) (.trigger (.kw .kfalse) p) :=
  fun W T k _ => alPB_eq_triggerB (tht h W T p) k
theorem dual_weak_next (h p) : EqvT h (.next 1 true p) (.neg (.next 1 false (.neg p))) := by
  intro T k _
  simp only [docSem, tht]
  split
  · exact (Bool.not_not _).symm
  · rfl
theorem dual_release (h a b) : EqvT h (.rel a b) (.neg (.unt (.neg a) (.neg b))) :=
  fun T k _ => releaseB_dual h (tht h T T a) (tht h T T b) k
theorem dual_trigger (h a b) : EqvT h (.trigger a b) (.neg (.since (.neg a) (.neg b))) :=
  fun T k _ => triggerB_dual (tht h T T a) (tht h T T b) k

/-- past/future mirror symmetry on reversed traces -/
theorem mirror_symmetry (h : Nat) (f : SForm) (tr : Trace) (k : Nat) (hk : k ≤ h) :
    docSem h tr f k = docSem h (revTrace h tr) (mirror f) (h - k) := mirror_sym h f tr k hk

/-- every context, heads and bodies -/
theorem in_every_context (h : Nat) (x : String) (f g : SForm) (e : Eqv h f g) (C : SForm) :
    Eqv h (substA x f C) (substA x g C) := subst_congr h x f g e C

/-- every body context, for the classical dualities -/
theorem in_every_body_context (h : Nat) (x : String) (f g : SForm) (e : EqvT h f g) (C : SForm) :
    EqvT h (substA x f C) (substA x g C) :=
  fun T => substA_congr h x f g (e T) (e T) C

/-- transported to the code: the two formulas `create_formula` builds for `C[f]` and `C[g]` have the same
    value at every state of every trace at every horizon -/
theorem code_level (x : String) (f g C : SForm) (e : ∀ h, EqvT h f g)
    (hg1 : GoodAtoms (substA x f C)) (hg2 : GoodAtoms (substA x g C)) :
    ∃ f1 f2, createFormula (toTerm (substA x f C)) = .ok f1 ∧ createFormula (toTerm (substA x g C)) = .ok f2 ∧
      ∀ (h : Nat) (tr : Trace) (lv : Int → Bool) (k : Nat), k ≤ h →
        f1.sem h (withAdmin h tr) lv k = f2.sem h (withAdmin h tr) lv k := by
  refine ⟨_, _, createFormula_toTerm _ hg1, createFormula_toTerm _ hg2, fun h tr lv k hk => ?_⟩
  rw [sem_mform h tr lv _ hg1 k hk, sem_mform h tr lv _ hg2 k hk]
  exact in_every_body_context h x f g (e h) C tr k hk

/-! ### non-vacuity -/
example : substA "x" (.finally_ (.atom "p")) (.since (.atom "x") (.neg (.atom "x"))) =
    .since (.finally_ (.atom "p")) (.neg (.finally_ (.atom "p"))) := rfl

end TelProofs.C16
