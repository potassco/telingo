/-
C02 — future references obey the end of the trace while the trace is extended.

Proved here about the model's accumulated ground program `G P h` (which is tied to the implementation
by the L1/L5 correspondence of tools/rules_check.py), for every program of the typed rule fragment, every
look-ahead depth, every horizon:
  * `temp_guarded` / `stale_dead`: every instance of a re-grounded (temporary) look-ahead copy made at an
    earlier step `s < h` carries `__final(s)`, which is false at horizon `h`: what was concluded for the
    shorter trace never constrains the longer one;
  * `window_temp` / `window_perm`: at step `s` the temporary part of a depth-`n` constraint is instantiated
    exactly for `t ∈ (s-n, s]` and the permanent part exactly for `t = s-n` (root condition permitting): no
    position is missed and none is covered twice by permanent copies;
  * `assumptions_exact`: the assumptions falsify exactly the derivable `__future_*` atoms beyond `h`;
  * `future_head`: a `__future_*` atom in an answer set lies within the horizon and comes with its target
    (as in C09).
  * `C02_future` / `C02_traces` (TelProofs/FullEquiv.lean): the full semantic statement — at every horizon
    `h` the answer sets of `G P h` are exactly the temporal stable models of `P` over traces of length `h+1`,
    for every program of the rule fragment with future heads of any depth and look-ahead integrity
    constraints / `not` / `not not` heads of any depth (`progFut`): a future head beyond the end is a
    contradiction, a future body literal beyond the end is false, and nothing concluded at a shorter trace
    survives (the theorem holds for *every* `h` of the incremental history).
`C02_statement` (the same statement without the side condition that normal rules have no future atoms in
their bodies and that `not`-heads carry `not`/`not not`) is kept visible; telingo rejects programs outside
`progFut` (C11), so the side condition excludes no accepted program of the rule fragment.
-/
import TelProofs.FullEquiv

namespace TelProofs.C02
open TelSpec TelModel TelModel.Generated

/-- the statement without the syntactic side condition `progFut` (not proved in this form: programs
    outside `progFut` are rejected by telingo before grounding) -/
def C02_statement : Prop :=
  ∀ (P : TProg) (h : Nat), (∀ r ∈ P, ∀ l ∈ r.body, match l with | .tel _ _ => False | .del _ _ => False | _ => True) →
    (∀ r ∈ P, match r.head with | .tel _ => False | _ => True) →
    ∀ T : Trace, (∃ X, Stable (G P h) X ∧ TraceEq h (traceOf X) T) ↔ (∃ T', TSM h P T' ∧ TraceEq h T' T)

set_option linter.unusedVariables false in
/-- temporary look-ahead copies are guarded by `__final(s)` of the step that grounded them -/
theorem temp_guarded (P : TProg) (s : Nat) (root : Root) (n : Nat) (t : Int) (r : TRule) (r' : GRule)
    (hmem : (r, true) ∈ rulesOfPart P ⟨root, .temp n⟩) (hi : instAt s t (some (s : Int)) r = some r') :
    GAtom.final (s : Int) ∈ r'.pos :=
  instAt_guard hi

/-- … hence dead at every later horizon: its body is false in every answer set -/
theorem stale_dead (P : TProg) (h s : Nat) (hs : s < h) (X : Interp) (hst : Stable (G P h) X) (r' : GRule)
    (hg : GAtom.final (s : Int) ∈ r'.pos) : r'.bodyHolds X X = false := by
  have hf : X (.final (s : Int)) = false := by
    rw [(stable_agrees hst).final, int_beq_nat]
    exact beq_false_of_ne (Nat.ne_of_lt hs)
  have : r'.pos.all X = false := List.all_eq_false.mpr ⟨_, hg, Bool.eq_false_iff.mp hf⟩
  rw [GRule.bodyHolds, this, Bool.false_and, Bool.false_and]

/-- window of the re-grounded part: at step `s` it is instantiated exactly for `t = s - i`, `0 ≤ i < n` -/
theorem window_temp (P : TProg) (s : Nat) (root : Root) (n : Nat) (hk : (⟨root, .temp n⟩ : SPart) ∈ spartsOf P) (t : Int) :
    ((⟨root, .temp n⟩ : SPart), t) ∈ selected P s ↔
      ∃ i : Nat, i < n ∧ t = (s : Int) - i ∧ partCond root.name (s : Int) i = true := by
  simp only [mem_selected, hk, true_and, SPart.range, List.mem_map, List.mem_range]
  constructor
  · rintro ⟨_, ⟨i, hi, rfl⟩, ht, hc⟩
    exact ⟨i, hi, ht, hc⟩
  · rintro ⟨i, hi, ht, hc⟩
    exact ⟨i, ⟨i, hi, rfl⟩, ht, hc⟩

/-- window of the permanent part: at step `s` exactly `t = s - n` -/
theorem window_perm (P : TProg) (s : Nat) (root : Root) (n : Nat) (hk : (⟨root, .perm n⟩ : SPart) ∈ spartsOf P) (t : Int) :
    ((⟨root, .perm n⟩ : SPart), t) ∈ selected P s ↔ t = (s : Int) - n ∧ partCond root.name (s : Int) n = true := by
  simp only [mem_selected, hk, true_and, SPart.range, List.mem_singleton, exists_eq_left]

/-- every position `k ≤ h` of an always-rooted look-ahead constraint of depth `n` is covered at horizon `h`:
    by the permanent copy grounded at step `k+n` when `k+n ≤ h`, otherwise by the temporary copy grounded at
    step `h` itself (whose guard `__final(h)` is true) -/
theorem always_window_cover (P : TProg) (h n k : Nat) (hk : k ≤ h)
    (hp : (⟨.always, .perm n⟩ : SPart) ∈ spartsOf P) (ht : (⟨.always, .temp n⟩ : SPart) ∈ spartsOf P) :
    (k + n ≤ h → ((⟨.always, .perm n⟩ : SPart), (k : Int)) ∈ selected P (k + n)) ∧
    (h < k + n → ((⟨.always, .temp n⟩ : SPart), (k : Int)) ∈ selected P h) := by
  constructor
  · intro _
    have e : ((k + n : Nat) : Int) - n = k := by rw [Int.natCast_add, Int.add_sub_cancel]
    refine (window_perm P (k+n) .always n hp _).mpr ⟨e.symm, ?_⟩
    exact (TelProofs.partCond_spec _ _ _).mpr (.inl ⟨rfl, e ▸ Int.natCast_nonneg k⟩)
  · intro hlt
    have e : (h : Int) - ((h - k : Nat) : Int) = k := by rw [Int.ofNat_sub hk, Int.sub_sub_self]
    refine (window_temp P h .always n ht _).mpr ⟨h - k, (Nat.sub_lt_iff_lt_add' hk).mpr hlt, e.symm, ?_⟩
    exact (TelProofs.partCond_spec _ _ _).mpr (.inl ⟨rfl, e ▸ Int.natCast_nonneg k⟩)

/-- the assumptions at horizon `h` are exactly the derivable `__future_*` atoms beyond `h`: none stale, none missing -/
theorem assumptions_exact (P : TProg) (h : Nat) (a : String) (n : Nat) (k : Int) :
    ({ head := [], pos := [.future a n k] } : GRule) ∈
        ((futureAtoms (accRules P h)).filterMap fun x => match x with
          | .future y m j => if assumeCond j (h : Int) then some ({ head := [], pos := [.future y m j] } : GRule) else none
          | _ => none) ↔
      (∃ r ∈ accRules P h, GAtom.future a n k ∈ r.head) ∧ (h : Int) < k :=
  (mem_assumptions _ h _).trans
    ⟨fun ⟨_, _, _, hex, hk, he⟩ => by
      cases he
      exact ⟨hex, hk⟩,
     fun ⟨hex, hk⟩ => ⟨a, n, k, hex, hk, rfl⟩⟩

/-- a `__future_*` atom of an answer set lies within the horizon and comes with its target atom -/
theorem future_head (P : TProg) (h : Nat) (X : Interp) (hs : Stable (G P h) X) (a : String) (n : Nat) (k : Int)
    (hx : X (.future a n k) = true) : k ≤ (h : Int) ∧ X (.user a k) = true :=
  stable_future_target hs hx

/-- **C02** (semantic statement): for every program of the future fragment and every horizon, the stable
    models of the accumulated ground program are exactly the embeddings of the temporal stable models;
    the auxiliary `__future_*` atoms are exactly those derived by a rule whose body holds. -/
theorem C02_future (P : TProg) (hf : progFut P = true) (h : Nat) :
    (∀ X, Stable (G P h) X → TSM h P (traceOf X) ∧ X = embedF P h (traceOf X) (traceOf X)) ∧
    (∀ T, TSM h P T → Stable (G P h) (embedF P h T T)) :=
  full_stable_iff P hf h

/-- projected to user atoms: the traces of the answer sets at horizon `h` are the temporal stable models -/
theorem C02_traces (P : TProg) (hf : progFut P = true) (h : Nat) (T : Trace) :
    (∃ X, Stable (G P h) X ∧ TraceEq h (traceOf X) T) ↔ (∃ T', TSM h P T' ∧ TraceEq h T' T) :=
  full_traces P hf h T

/-- the specification side of the end-of-trace reading: a future head that points beyond the last state
    is falsity, a future body atom beyond the last state is false -/
theorem beyond_end_false (h : Nat) (W : Trace) (a : String) (k n : Nat) (hk : h < k + n) :
    atPos h W a ((k : Int) + n) = false :=
  atPos_out (by omega) W a

/-- core programs are in the future fragment: C01 is the special case without look-ahead -/
theorem core_sub_fut (P : TProg) (hc : progCore P = true) : progFut P = true :=
  progCore_fut hc

/-! ### non-vacuity -/

/-- future heads of depth 1 and 2, a look-ahead constraint of depth 2, `not p'` and `not not p''` heads, a final-part
    constraint are all inside the fragment -/
example : progFut [⟨.initial, .choice ["a", "b"], []⟩,
                   ⟨.always, .atom "a" 1, [.atom .pos "b" 0, .atom .not "a" (-1)]⟩,
                   ⟨.dynamic, .atom "b" 2, [.atom .pos "a" 0]⟩,
                   ⟨.always, .falsum, [.atom .pos "a" 2, .atom .not "b" 1]⟩,
                   ⟨.always, .nlit .not "b" 1, [.atom .pos "a" 0]⟩,
                   ⟨.dynamic, .nlit .notnot "a" 2, [.atom .pos "b" (-1)]⟩,
                   ⟨.final, .falsum, [.atom .not "a" 0]⟩] = true := by decide

example : ((⟨.always, .temp 2⟩ : SPart) ∈ spartsOf [⟨.always, .falsum, [.atom .pos "a" 2, .atom .not "b" 1]⟩]) := by decide
example : ((⟨.always, .temp 2⟩ : SPart), (1 : Int)) ∈ selected [⟨.always, .falsum, [.atom .pos "a" 2, .atom .not "b" 1]⟩] 2 := by decide

end TelProofs.C02
