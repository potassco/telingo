/-
C15 — failures surface as diagnostics, never as internal errors, crashes or hangs.

In the model every Python exception is a value: `PyErr.runtime _` is a `RuntimeError` telingo raises on
purpose, every other constructor is an internal error (`AssertionError`, `AttributeError`, `IndexError`, …) —
each `assert`, each attribute read on a possibly-`None` value, each list index of the transcribed code has an
explicit failure branch.  Proved: on every input the modelled function ends in a value or a `RuntimeError`:
  * `create_number`, `create_symbol` (all theory terms), `create_atom`, the n-fold prefix
  * `create_formula` for every theory term gringo can produce with the `#theory tel` body table (operator
    names only with an arity the table allows — `gringoOK`, the parser's contract); in particular the
    `assert` at the end of the operator chain, `Previous(None, …)` / `BooleanFormula("&", None, …)` of unary
    sequence operators and `args[-1]` on an empty list are unreachable
  * `create_path` / `create_dynamic_formula` (every `&del` term gringo can produce with the `#theory del` table) and
    `translate_elements` on top of them (an element without a term never reaches its `terms[0]`:
    `element_without_term_rejected`); the head `create_formula` (theory/head.py)
  * `TheoryParser.parse` (transformers/head.py) on every non-empty unparsed term of the shape clingo's grammar
    produces, with any operator table: the stack never underflows, `__check` never looks up a missing
    operator, the fuel of the model's loops suffices (termination)
  * `__get_param` for every predicate name and flag combination; `theory_term_to_term` (transformers/head.py) for every term
    and operator table
  * the solving loop and the option parsers (C08: `loop_no_internal`, `options_never_crash`)
  * the recursion of `BodyFormula.translate` over the (formula, step) pairs (model TelModel/TranslateRec.lean): every call returns,
    cycles through box / diamond pairs included (`translate_returns`); with the second look of the Boolean connectives the
    assertion of `StepData.add_literal` never fails (`add_literal_assertion_holds`, under `Graph.wok`), and without it it fails
    on every such cycle (`add_literal_assertion_fails_without_second_look`)
Termination: all these functions are total Lean definitions (structural or well-founded recursion accepted by
the kernel) — no input makes them loop.
PARTIAL: the AST rewriting of `transformers/` (other than `__get_param`, `TheoryParser` and `theory_term_to_term`) and what the
step-wise `translate` methods of `theory/` do beyond their recursion are covered by the error-class correspondence and the
near-valid search on the real code only.
-/
import TelProofs.NoInternal
import TelProofs.ParserShape
import TelProofs.RejectProofs
import TelProofs.TermConvProofs
import TelProofs.ImainProofs
import TelProofs.TranslateRecProofs

namespace TelProofs.C15
open TelModel TelModel.Generated

theorem no_internal_number (t : TTerm) : NoInternal (createNumber t) := createNumber_noInternal t
theorem no_internal_symbol (t : TTerm) : NoInternal (createSymbol t) := createSymbol_noInternal.1 t
theorem no_internal_atom (t : TTerm) (p : Bool) : NoInternal (createAtom t p) := createAtom_noInternal t p
theorem no_internal_offset (t : TTerm) : NoInternal (createOffset t) := createOffset_noInternal t

/-- body formulas: every term the theory-term parser can hand over -/
theorem no_internal_formula (t : TTerm) (hok : gringoOK bodyTable t = true) : NoInternal (createFormula t) :=
  createFormula_noInternal t hok

theorem no_internal_test (t : TTerm) (hok : gringoOK delTable t = true) : NoInternal (createPathCheck t) :=
  createPathCheck_noInternal t hok

/-- `&del` formulas: every term the theory-term parser can hand over -/
theorem no_internal_path (t : TTerm) (hok : gringoOK delTable t = true) : NoInternal (createPath t) :=
  createPath_noInternal t hok

theorem no_internal_dynamic (t : TTerm) (hok : gringoOK delTable t = true) : NoInternal (createDynamicFormula t) :=
  createDynamicFormula_noInternal t hok

/-- `translate_elements`: all elements of a `&tel` / `&del` body atom, with their conditions -/
theorem no_internal_elements (els : List TElem) (dynamic : Bool)
    (hok : ∀ e ∈ els, gringoOK (if dynamic then delTable else bodyTable) e.term = true) :
    NoInternal (translateElements els dynamic) :=
  translateElements_noInternal els dynamic hok

/-- `translate_elements` reads `element.terms[0]` of every element: an element without a term is stopped before, by the
    RuntimeError of `visit_TheoryAtom` (E13, regenerated from the source) — for `&tel` and for `&del` -/
theorem element_without_term_rejected :
    telElemRejected 0 = true ∧ delElemRejected 0 = true := by
  constructor <;> decide

/-- `theory_term_to_term` (transformers/head.py), any operator table: a value or the RuntimeError "invalid term" -/
theorem no_internal_term_conversion (tbl : List OpEntry) (t : HTerm) : NoInternal (convTerm tbl t) :=
  convTerm_noInternal tbl t

/-- head formulas (`&__tel_head` atoms are declared with the body term table) -/
theorem no_internal_head_formula (t : TTerm) (hok : gringoOK bodyTable t = true) : NoInternal (hCreateFormula t) :=
  hCreateFormula_noInternal t hok

/-- `TheoryParser.parse`, any table -/
theorem no_internal_parser (tbl : List OpEntry) (elems : List UElem) (hne : elems ≠ []) (hok : elemsOK true elems) :
    NoInternal (stackParse tbl elems) :=
  stackParse_noInternal tbl elems hne hok

theorem no_internal_get_param (name : String) (rf ff fp : Bool) : NoInternal (getParam name rf ff fp) :=
  getParam_noInternal name rf ff fp

/-- the solving loop and the option parsers (from C08) -/
theorem no_internal_loop (o : Opts) (res : Nat → SolveResult) (fuel : Nat) : ∃ l, run o res fuel = .ok l :=
  ⟨_, run_eq o res fuel⟩

theorem no_internal_options (o : Opts) (name value : String) : ∀ e, applyOption o name value ≠ .crashed e :=
  applyOption_ne_crashed o name value

/-! ### non-vacuity: terms the parser produces satisfy `gringoOK`; a malformed prefix ends in RuntimeError -/
example : gringoOK bodyTable (.fn ";>" [.sym "a", .fn ">?" [.fn "~" [.sym "b"]]]) = true := by decide +kernel
example : createFormula (.fn ">" [.fn "-" [.num 1], .sym "a"]) = .error (.runtime "number expected") := by rfl
example : gringoOK bodyTable (.fn ";>" [.sym "a"]) = false := by decide +kernel
example : gringoOK delTable (.fn ".>?" [.fn ";;" [.fn "?" [.sym "a"], .fn "*" [.fn "&" [.sym "true"]]], .sym "b"]) = true := by decide +kernel
example : elemsOK true [⟨[], 0⟩, ⟨["&", ">"], 1⟩, ⟨["|"], 2⟩] := by simp [elemsOK]
example : stackParse headTablePy [⟨["<"], 0⟩] = .error (.runtime "invalid operator in temporal formula") := by rfl

/-! ### the recursion of the step-wise translation (`BodyFormula.translate`), model TelModel/TranslateRec.lean -/

/-- `translate` returns for every graph of (formula, step) pairs in which the pairs that wait for their operands (negation,
    previous / next, Boolean and temporal connectives) point to pairs of smaller rank — cycles through box / diamond pairs
    (the unfolding of an iteration over a path that consumes no state) allowed: no unbounded recursion.  (That the recursion
    is well-founded is what Lean checked to accept the definition of `tr`.)  The pair has a literal afterwards, none is lost. -/
theorem translate_returns {n : Nat} (G : TelModel.TR.Graph n) (hG : G.ok) (fixed : Bool) (k : Fin n) (s : TelModel.TR.St n) :
    (TelModel.TR.tr G hG fixed k s).1.set k = true ∧ s.le (TelModel.TR.tr G hG fixed k s).1 :=
  TRP.translate_returns G hG fixed k s

/-- a pair that has been translated is not translated again: the second call returns the state unchanged -/
theorem translate_idempotent {n : Nat} (G : TelModel.TR.Graph n) (hG : G.ok) (fixed : Bool) (k : Fin n) (s : TelModel.TR.St n) :
    (TelModel.TR.tr G hG fixed k (TelModel.TR.tr G hG fixed k s).1).1 = (TelModel.TR.tr G hG fixed k s).1 :=
  TRP.translate_idempotent G hG fixed k s

/-- With the second look of the Boolean connectives (`fixed = true`) the assertion in `StepData.add_literal` never fails.
    `Graph.wok`: a weak rank that never increases along an edge — unfoldings of box / diamond pairs included — under which the
    pairs that take their literal after their operands *without* looking again (since / trigger / until / release) lie strictly
    above their operands; Boolean connectives may lie on cycles. -/
theorem add_literal_assertion_holds {n : Nat} (G : TelModel.TR.Graph n) (hG : G.ok) (hr : G.wok) (k : Fin n)
    (s : TelModel.TR.St n) (h : s.err = false) : (TelModel.TR.tr G hG true k s).1.err = false :=
  TRP.fixed_never_asserts G hG hr k s h

/-- … and without it (`fixed = false`) the assertion fails on every cycle of a Boolean pair whose first operand is a box /
    diamond pair that unfolds to the Boolean pair: the second look is necessary, not only sufficient -/
theorem add_literal_assertion_fails_without_second_look {n : Nat} (G : TelModel.TR.Graph n) (hG : G.ok) (k a b : Fin n)
    (r : Bool) (s : TelModel.TR.St n) (hk : G.kind k = .op r a b) (ha : G.kind a = .early k)
    (hsk : s.set k = false) (hsa : s.set a = false) : (TelModel.TR.tr G hG false k s).1.err = true :=
  TRP.unfixed_asserts G hG k a b r s hk ha hsk hsa

end TelProofs.C15
