/-
C08 — the solving loop visits horizons 0,1,2,... and stops as imin/imax/istop dictate.

All statements are about `TelModel.run`, whose loop test, option parsers and defaults are
regenerated from /repo/telingo/__init__.py on every check (`TelModel.Generated`).  `res k` is
the result of the solve call at horizon `k`; `fuel` bounds how many iterations we look at, so
every statement holds for every prefix of a (possibly non-terminating) run.
-/
import TelProofs.ImainProofs

namespace TelProofs.C08
open TelModel TelModel.Generated

/-- No internal error: the loop test never reads `ret` while it is `None`, never compares with
    `None`, whatever the options are. -/
theorem loop_no_internal (o : Opts) (res : Nat → SolveResult) (fuel : Nat) :
    ∃ l, run o res fuel = .ok l := ⟨_, run_eq o res fuel⟩

/-- Horizons are visited as 0,1,2,… without gaps or repetitions: the n-th solve call is at horizon n. -/
theorem loop_horizons (o : Opts) (res : Nat → SolveResult) (fuel : Nat) (l : List Nat)
    (h : run o res fuel = .ok l) : l = List.range l.length :=
  (run_horizons o res fuel l h).1

/-- Never more than `imax` solve calls. -/
theorem loop_le_imax (o : Opts) (res : Nat → SolveResult) (fuel : Nat) (l : List Nat) (m : Int)
    (hm : o.imax = some m) (h : run o res fuel = .ok l) : (l.length : Int) ≤ max m 0 := by
  cases hl : l.length with
  | zero => exact Int.le_max_right m 0
  | succ n =>
    -- the last call was admitted by `cont`
    have hn : (n : Int) < m := ((cont_iff o res n).1 ((run_horizons o res fuel l h).2.1 n (by omega))).1 m hm
    exact Int.le_trans (Int.add_one_le_of_lt hn) (Int.le_max_left m 0)

/-- At least `min(imin, imax)` solve calls (given that much fuel). -/
theorem loop_ge_min (o : Opts) (res : Nat → SolveResult) (fuel : Nat) (l : List Nat) (n : Nat)
    (h : run o res fuel = .ok l) (hf : n ≤ fuel) (himin : (n : Int) ≤ o.imin)
    (himax : ∀ m, o.imax = some m → (n : Int) ≤ m) : n ≤ l.length :=
  run_length_ge o res fuel l h n hf fun s hs =>
    have hsn : (s : Int) < n := Int.ofNat_lt.2 hs
    (cont_iff o res s).2 ⟨fun m hm => Int.lt_of_lt_of_le hsn (himax m hm), .inr (.inl (Int.lt_of_lt_of_le hsn himin))⟩

/-- At least one solve call unless `imax ≤ 0`. -/
theorem loop_ge_one (o : Opts) (res : Nat → SolveResult) (fuel : Nat) (l : List Nat)
    (h : run o res fuel = .ok l) (hf : 1 ≤ fuel) (himax : ∀ m, o.imax = some m → 0 < m) : 1 ≤ l.length :=
  run_length_ge o res fuel l h 1 hf fun s hs => by
    obtain rfl : s = 0 := Nat.lt_one_iff.1 hs
    exact (cont_iff o res 0).2 ⟨himax, .inl rfl⟩

-- `hpos` is not used: where the loop stops for another reason than `imax`, `cont_eq_false_iff` says itself that a call was made
set_option linter.unusedVariables false in
/-- When the loop has stopped after `n ≥ 1` calls (it did not merely run out of the fuel we gave it):
    either `imax` is reached, or `imin` calls were made and the last result meets the stop criterion;
    and at no earlier horizon was the stop condition met. -/
theorem loop_stop (o : Opts) (res : Nat → SolveResult) (fuel : Nat) (l : List Nat)
    (h : run o res fuel = .ok l) (hdone : l.length < fuel) (hpos : 0 < l.length) :
    ((∃ m, o.imax = some m ∧ m ≤ (l.length : Int)) ∨
      (o.imin ≤ (l.length : Int) ∧ contMatch o.istop (res (l.length - 1)) = false)) ∧
    (∀ s, 0 < s → s < l.length →
      (∀ m, o.imax = some m → (s : Int) < m) ∧
      ((s : Int) < o.imin ∨ contMatch o.istop (res (s - 1)) = true)) := by
  obtain ⟨_, hc, hs⟩ := run_horizons o res fuel l h
  refine ⟨((cont_eq_false_iff o res _).1 (hs hdone)).imp_right (·.2), fun s hs0 hsl => ?_⟩
  exact ((cont_iff o res s).1 (hc s hsl)).imp_right (·.resolve_left (Nat.ne_of_gt hs0))

/-- Zero calls only when `imax ≤ 0`. -/
theorem loop_zero (o : Opts) (res : Nat → SolveResult) (fuel : Nat)
    (h : run o res fuel = .ok []) (hf : 0 < fuel) : ∃ m, o.imax = some m ∧ m ≤ 0 :=
  ((cont_eq_false_iff o res 0).1 ((run_horizons o res fuel [] h).2.2 hf)).resolve_right (·.1 rfl)

/-- With the default options the first satisfiable horizon is where the run ends: the first answer
    set reported has the shortest possible trace. -/
theorem loop_first_sat_shortest (res : Nat → SolveResult) (fuel : Nat) (l : List Nat)
    (h : run {} res fuel = .ok l) (hdone : l.length < fuel) :
    0 < l.length ∧ res (l.length - 1) = .sat ∧ ∀ k, k + 1 < l.length → res k ≠ .sat := by
  -- with the default options the loop goes on exactly until the last result is SAT
  have hd : ∀ s, cont {} res s = true ↔ s = 0 ∨ res (s - 1) ≠ .sat := fun s => by
    have hm : ∀ r : SolveResult, contMatch defaultIstop r = true ↔ r ≠ .sat := fun r => by cases r <;> decide
    have hs : ¬(s : Int) < defaultImin := Int.not_lt.2 (Int.natCast_nonneg s)
    rw [cont_iff]
    simp only [defaultImax, hm, hs, false_or, reduceCtorEq, false_implies, implies_true, true_and]
  obtain ⟨_, hc, hstop⟩ := run_horizons {} res fuel l h
  have hs : ¬(l.length = 0 ∨ res (l.length - 1) ≠ .sat) := mt (hd _).2 (Bool.eq_false_iff.1 (hstop hdone))
  exact ⟨Nat.pos_of_ne_zero fun h0 => hs (.inl h0), Decidable.of_not_not fun h => hs (.inr h),
    fun k hk => ((hd _).1 (hc _ hk)).resolve_left (Nat.succ_ne_zero k)⟩

/-- The options only select which horizons are solved: two runs under different options make the
    same calls (grounding, translation, externals, assumptions) for every horizon both reach. -/
theorem calls_independent_of_options (o o' : Opts) (parts : List PartSpec) (atoms : Nat → List SigAtom)
    (res : Nat → SolveResult) (fuel : Nat) (log log' : List Call)
    (h : callLog o parts atoms res fuel = .ok log) (h' : callLog o' parts atoms res fuel = .ok log') :
    ∃ n n', log = (List.range n).flatMap (fun s => stepCalls parts (atoms s) s) ∧
            log' = (List.range n').flatMap (fun s => stepCalls parts (atoms s) s) := by
  obtain ⟨l, hl⟩ := loop_no_internal o res fuel
  obtain ⟨l', hl'⟩ := loop_no_internal o' res fuel
  simp only [callLog, hl, hl', ok_bind, py_pure, Except.ok.injEq] at h h'
  refine ⟨l.length, l'.length, ?_, ?_⟩
  · rw [← loop_horizons o res fuel l hl, h]
  · rw [← loop_horizons o' res fuel l' hl', h']

/-- Refinement to the specification `TelSpec.specCalls` (the property statement as a function):
    for every admissible stop criterion the horizons solved are exactly `0 .. specCalls - 1`. -/
theorem loop_refines_spec (o : Opts) (st : TelSpec.Stop) (h : TelSpec.Stop.ofString? o.istop = some st)
    (res : Nat → SolveResult) (fuel : Nat) :
    run o res fuel = .ok (List.range (TelSpec.specCalls o.imin o.imax st ((List.range fuel).map res))) :=
  run_refines_spec o st h res fuel

/-! ### Option values -/

/-- `--imin=v` is accepted exactly for decimal integers `≥ 0`; no exception escapes the parser. -/
theorem parse_imin_spec (v : String) :
    (∀ x, pyInt v = .ok x → parseImin v = .ok (x, decide (x ≥ 0))) ∧
    (pyInt v = .error .valueError → ∃ d, parseImin v = .ok (d, false)) :=
  parseImin_spec v

/-- `--imax=v`: empty means unbounded, otherwise as `--imin`. -/
theorem parse_imax_spec (v : String) :
    (v.length = 0 → parseImax v = .ok (none, true)) ∧
    (0 < v.length → ∀ x, pyInt v = .ok x → parseImax v = .ok (some x, decide (x ≥ 0))) ∧
    (0 < v.length → pyInt v = .error .valueError → ∃ d, parseImax v = .ok (d, false)) :=
  parseImax_spec v

/-- `--istop=v` is accepted exactly for sat/unsat/unknown, case-insensitively. -/
theorem parse_istop_spec (v : String) :
    parseIstop v = .ok (pyUpper v, decide (pyUpper v = "SAT" ∨ pyUpper v = "UNSAT" ∨ pyUpper v = "UNKNOWN")) :=
  parseIstop_spec v

/-- `pyInt` (the model of `int(str)`) fails only with ValueError -/
theorem pyInt_error (v : String) (e : PyErr) (h : pyInt v = .error e) : e = .valueError :=
  pyInt_eq_error h

/-- Invalid option values are rejected, never crash: `applyOption` has no `crashed` outcome. -/
theorem options_never_crash (o : Opts) (name value : String) :
    ∀ e, applyOption o name value ≠ .crashed e :=
  applyOption_ne_crashed o name value

/-- An accepted option leaves admissible values: `imin ≥ 0`, `imax ≥ 0` or unbounded, `istop` one of the three. -/
theorem options_accepted_valid (name value : String) (o' : Opts)
    (h : applyOption {} name value = .accepted o') :
    0 ≤ o'.imin ∧ (∀ m, o'.imax = some m → 0 ≤ m) ∧ (o'.istop = "SAT" ∨ o'.istop = "UNSAT" ∨ o'.istop = "UNKNOWN") := by
  rcases applyOption_cases {} name value with h' | ⟨o'', h', hv⟩
  all_goals
    rw [h'] at h
    cases h
  exact hv ⟨Int.le_refl _, nofun, .inl rfl⟩

/-! ### Non-vacuity: concrete runs -/

/-- results UNSAT, UNSAT, SAT: default options stop after three calls at horizons 0,1,2 -/
example : run {} (fun k => if k < 2 then .unsat else .sat) 10 = .ok [0, 1, 2] := by rfl
/-- imin = 5 overrides an early SAT, imax = 4 caps it -/
example : run { imin := 5, imax := some 4 } (fun _ => .sat) 10 = .ok [0, 1, 2, 3] := by rfl
example : run { imax := some 0 } (fun _ => .sat) 10 = .ok [] := by rfl
example : run { istop := "UNSAT" } (fun k => if k < 1 then .sat else .unsat) 10 = .ok [0, 1] := by rfl
example : applyOption {} "imin" "abc" = .rejected := by rfl
example : applyOption {} "imax" "-1" = .rejected := by rfl

end TelProofs.C08
