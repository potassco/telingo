/-
C07 — temporal formulas are parsed with the documented precedence and associativity.

  * `tables_agree`      the four operator tables that live in the source (`#theory tel` body and head term
                        definitions, `#theory del`, `TheoryParser.table`; all regenerated from /repo on every run)
                        are the documented tables `TelSpec.docBody/docHead/docDel`
  * `*_pairs_triples`   for every operator pair and triple (unary × binary × binary with the unary operator in
                        front of any operand; unary × unary) the stack machine of `TheoryParser.parse` — and the
                        same machine as the model of gringo's parser with the `#theory` tables — reads the token
                        string exactly as the documented precedence-climbing rule `TelSpec.docRead`; these are
                        instances of `TelProofs.stackParse_eq_docRead`, which says the same of every well-formed
                        operator string and every table whose binary operators have an associativity
  * `head_sub_body`     the head table is the restriction of the body table: heads and bodies read alike
  * `arith_prefix`      arithmetic in n-fold prefixes is evaluated
-/
import TelProofs.ParserProofs
import TelModel.Term

namespace TelProofs.C07
open TelSpec TelModel TelModel.Generated

theorem tables_agree :
    sameEntries (bodyTable.map OpEntry.toDoc) docBody = true ∧
    sameEntries (headTableTheory.map OpEntry.toDoc) docHead = true ∧
    sameEntries (headTablePy.map OpEntry.toDoc) docHead = true ∧
    sameEntries (delTable.map OpEntry.toDoc) docDel = true := TelProofs.tables_agree

theorem head_sub_body : (headTablePy.all fun e => bodyTable.contains e) = true := TelProofs.head_sub_body

theorem head_pairs_triples : allAgree headTablePy docHead = true := TelProofs.head_pairs_triples
theorem head_theory_pairs_triples : allAgree headTableTheory docHead = true := TelProofs.head_theory_pairs_triples
theorem del_pairs_triples : allAgree delTable docDel = true := TelProofs.del_pairs_triples
theorem body_pairs_triples : allAgree bodyTable docBody = true := TelProofs.body_pairs_triples

/-- what the pair and triple theorems say about one element list -/
theorem agree_spec (tbl : List OpEntry) (doc : List DocOp) (elems : List UElem) (h : agree tbl doc elems = true) :
    ∃ t, stackParse tbl elems = .ok t ∧ docRead doc (toToks elems) = some t :=
  agree_iff.1 h

/-- arithmetic expressions over non-negative numbers, as they may occur in an n-fold prefix -/
inductive Arith where
  | num (n : Nat)
  | add (a b : Arith)
  | sub (a b : Arith)
  | neg (a : Arith)

def Arith.eval : Arith → Int
  | .num n => n
  | .add a b => a.eval + b.eval
  | .sub a b => a.eval - b.eval
  | .neg a => -a.eval

def Arith.toTerm : Arith → TTerm
  | .num n => .num n
  | .add a b => .fn "+" [a.toTerm, b.toTerm]
  | .sub a b => .fn "-" [a.toTerm, b.toTerm]
  | .neg a => .fn "-" [a.toTerm]

/-- `create_number` evaluates the arithmetic of an n-fold prefix -/
theorem arith_prefix (e : Arith) : createNumber e.toTerm = .ok e.eval := by
  induction e with
  | num n => simp [Arith.toTerm, createNumber, Arith.eval]
  | add a b iha ihb | sub a b iha ihb => simp [Arith.toTerm, createNumber, arithmeticOperators, iha, ihb, Arith.eval]
  | neg a iha => simp [Arith.toTerm, createNumber, iha, Arith.eval]

/-! ### non-vacuity: `~ 2 > a` is read as `~ (2 > a)`, `a & > b | c` as `(a & (> b)) | c` -/
example : docRead docBody [.op "~", .leaf 0, .op ">", .leaf 1] = some (.un "~" (.bin ">" (.leaf 0) (.leaf 1))) := by decide +kernel
example : stackParse headTablePy [⟨[], 0⟩, ⟨["&", ">"], 1⟩, ⟨["|"], 2⟩]
    = .ok (.bin "|" (.bin "&" (.leaf 0) (.un ">" (.leaf 1))) (.leaf 2)) := by rfl

end TelProofs.C07
