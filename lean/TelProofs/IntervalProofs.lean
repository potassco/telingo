/-
C06: `IntervalSet` keeps a sorted list of disjoint, non-adjacent, non-empty intervals (`IvSorted`), and a point lies
in the set after `add` iff it lay in it before or lies in the added interval (`add_spec`; any sequence of ranges: `addAll_spec`).
-/
import TelModel.Interval

namespace TelProofs
open TelModel

def IvSorted : List Ival → Prop
  | [] => True
  | e :: es => e.left < e.right ∧ (∀ f ∈ es, e.right < f.left) ∧ IvSorted es

theorem IvSorted.nonempty : ∀ {es : List Ival}, IvSorted es → ∀ f ∈ es, f.left < f.right
  | [] => fun _ _ hf => nomatch hf
  | _ :: _ => fun hs f hf => (List.mem_cons.mp hf).elim (· ▸ hs.1) (hs.2.2.nonempty f)

theorem hull_is_union (y e : Ival) (x : Int) (h1 : e.left ≤ y.right) (h2 : y.left ≤ e.right) :
    Ival.mem x (y.union e) = (Ival.mem x y || Ival.mem x e) := by
  rw [Bool.eq_iff_iff]
  unfold Ival.mem Ival.union
  simp only [Bool.and_eq_true, Bool.or_eq_true, decide_eq_true_eq]
  omega

/-- What inserting `y` into `s` has to produce, for either loop: a sorted list `r` with the points of `s` and of `y`.
    `above` is what lets `r` follow a prefix that lies to the left of `y` and of `s`. -/
structure Inserts (s : List Ival) (y : Ival) (r : List Ival) : Prop where
  sorted : IvSorted r
  above : ∀ lo, lo < y.left → (∀ f ∈ s, lo < f.left) → ∀ f ∈ r, lo < f.left
  mem : ∀ x, IntervalSet.memPoint r x = (IntervalSet.memPoint s x || Ival.mem x y)

theorem memPoint_cons (e : Ival) (es : List Ival) (x : Int) :
    IntervalSet.memPoint (e :: es) x = (Ival.mem x e || IntervalSet.memPoint es x) := rfl

theorem mergeLoop_cons (e : Ival) (es : List Ival) (y : Ival) :
    mergeLoop (e :: es) y = if y.right < e.left then (y, e :: es) else mergeLoop es (y.union e) := by
  simp only [mergeLoop, Ival.before, decide_eq_true_eq]

/-- the second loop, started where no interval ends before `y` begins -/
theorem mergeLoop_spec (es : List Ival) (y : Ival) (hy : y.left < y.right) (hs : IvSorted es)
    (hle : ∀ e ∈ es, y.left ≤ e.right) : Inserts es y ((mergeLoop es y).1 :: (mergeLoop es y).2) := by
  induction es generalizing y with
  | nil => exact ⟨⟨hy, nofun, trivial⟩, fun lo h _ f hf => List.mem_singleton.mp hf ▸ h, fun x => Bool.or_comm ..⟩
  | cons e es ih =>
    obtain ⟨he, hgap, hs'⟩ := hs
    rw [mergeLoop_cons]
    split
    · -- `y` ends before `e` begins: nothing to merge
      rename_i hb
      have hbelow : ∀ f ∈ e :: es, y.right < f.left :=
        List.forall_mem_cons.mpr ⟨hb, fun f hf => Int.lt_trans (Int.lt_trans hb he) (hgap f hf)⟩
      exact ⟨⟨hy, hbelow, he, hgap, hs'⟩, fun lo h hall => List.forall_mem_cons.mpr ⟨h, hall⟩, fun x => Bool.or_comm ..⟩
    · -- `y` and `e` overlap or touch: go on with their hull
      rename_i hb
      have hne : (y.union e).left < (y.union e).right :=
        Int.lt_of_le_of_lt (Int.min_le_left ..) (Int.lt_of_lt_of_le hy (Int.le_max_left ..))
      -- the hull begins at or before `e`, and every later interval lies behind `e`
      have hle' : ∀ f ∈ es, (y.union e).left ≤ f.right := fun f hf =>
        Int.le_trans (Int.min_le_right ..) (Int.le_of_lt (Int.lt_trans he (Int.lt_trans (hgap f hf) (hs'.nonempty f hf))))
      have ih := ih (y.union e) hne hs' hle'
      refine ⟨ih.sorted, fun lo h hall => ?_, fun x => ?_⟩
      · exact ih.above lo (Int.lt_min.mpr ⟨h, hall e List.mem_cons_self⟩)
          (fun f hf => hall f (List.mem_cons_of_mem _ hf))
      · rw [ih.mem x, hull_is_union y e x (Int.not_lt.mp hb) (hle e List.mem_cons_self), memPoint_cons]
        simp only [Bool.or_assoc, Bool.or_comm]

theorem addIval_cons (e : Ival) (es : List Ival) (y : Ival) :
    addIval (e :: es) y =
      if e.right < y.left then e :: addIval es y else (mergeLoop (e :: es) y).1 :: (mergeLoop (e :: es) y).2 := by
  simp only [addIval, List.takeWhile_cons, List.dropWhile_cons, Ival.before, decide_eq_true_eq]
  split
  · rfl
  · rfl

theorem addIval_spec (s : List Ival) (y : Ival) (hy : y.left < y.right) (hs : IvSorted s) : Inserts s y (addIval s y) := by
  induction s with
  | nil => exact mergeLoop_spec [] y hy trivial nofun
  | cons e es ih =>
    rw [addIval_cons]
    split
    · -- first loop: `e` ends before `y` begins and stays in front
      rename_i hb
      have ih := ih hs.2.2
      refine ⟨⟨hs.1, ih.above _ hb hs.2.1, ih.sorted⟩, fun lo h hall => ?_, fun x => ?_⟩
      · obtain ⟨hlo, hall⟩ := List.forall_mem_cons.mp hall
        exact List.forall_mem_cons.mpr ⟨hlo, ih.above lo h hall⟩
      · rw [memPoint_cons, memPoint_cons, ih.mem x, Bool.or_assoc]
    · -- second loop: `e` and, the list being sorted, all later intervals end at or after the begin of `y`
      rename_i hb
      have hb := Int.not_lt.mp hb
      exact mergeLoop_spec (e :: es) y hy hs (List.forall_mem_cons.mpr ⟨hb, fun f hf =>
        Int.le_of_lt (Int.lt_of_le_of_lt hb (Int.lt_trans (hs.2.1 f hf) (hs.2.2.nonempty f hf)))⟩)

theorem add_spec (s : List Ival) (y : Ival) (hs : IvSorted s) :
    IvSorted (IntervalSet.add s y) ∧
    ∀ x, IntervalSet.memPoint (IntervalSet.add s y) x = (IntervalSet.memPoint s x || Ival.mem x y) := by
  simp only [IntervalSet.add, Ival.isEmpty, decide_eq_true_eq]
  split
  · -- an empty interval has no points
    rename_i hem
    refine ⟨hs, fun x => ?_⟩
    have : Ival.mem x y = false := by
      rw [Ival.mem, Bool.and_eq_false_iff, decide_eq_false_iff_not, decide_eq_false_iff_not]
      omega
    rw [this, Bool.or_false]
  · rename_i hem
    have h := addIval_spec s y (Int.not_le.mp hem) hs
    exact ⟨h.sorted, h.mem⟩

theorem addAll_spec (ys : List Ival) : ∀ (s : List Ival), IvSorted s →
    IvSorted (ys.foldl IntervalSet.add s) ∧
    ∀ x, IntervalSet.memPoint (ys.foldl IntervalSet.add s) x = (IntervalSet.memPoint s x || ys.any (Ival.mem x)) := by
  induction ys with
  | nil => exact fun s hs => ⟨hs, fun x => (Bool.or_false _).symm⟩
  | cons y ys ih =>
    intro s hs
    obtain ⟨h1, h2⟩ := add_spec s y hs
    obtain ⟨i1, i2⟩ := ih _ h1
    refine ⟨i1, fun x => ?_⟩
    simp only [List.foldl_cons, i2 x, h2 x, List.any_cons, Bool.or_assoc]

end TelProofs
