/-
C07: the operator tables in the source are the documented ones, and the stack machine of
`TheoryParser` reads every operator pair and triple exactly as the documented precedence-climbing rule
does — in the body, head and `&del` tables.  The pairs and triples are instances of
`stackParse_eq_docRead` (every well-formed operator string, every table whose binary operators have an
associativity): what is evaluated here are facts about the four tables only, none of which depends on the order of
their entries.
-/
import TelProofs.ParserCorrect

namespace TelProofs
open TelSpec TelModel TelModel.Generated

def sameEntries (a b : List DocOp) : Bool := a.all (fun e => b.contains e) && b.all (fun e => a.contains e)

theorem tables_agree :
    sameEntries (bodyTable.map OpEntry.toDoc) docBody = true ∧
    sameEntries (headTableTheory.map OpEntry.toDoc) docHead = true ∧
    sameEntries (headTablePy.map OpEntry.toDoc) docHead = true ∧
    sameEntries (delTable.map OpEntry.toDoc) docDel = true := by
  -- `+kernel`: the comparisons of strings are evaluated by the kernel only, not by the elaborator beforehand as well
  decide +kernel

theorem head_sub_body : (headTablePy.all fun e => bodyTable.contains e) = true := by decide +kernel

def unaries (tbl : List OpEntry) : List String := (tbl.filter (·.unary)).map (·.op)
def binaries (tbl : List OpEntry) : List String := (tbl.filter (fun e => !e.unary)).map (·.op)

def agree (tbl : List OpEntry) (doc : List DocOp) (elems : List UElem) : Bool :=
  match stackParse tbl elems, docRead doc (toToks elems) with
  | .ok t, some t' => t == t'
  | _, _ => false

theorem agree_iff {tbl : List OpEntry} {doc : List DocOp} {elems : List UElem} :
    agree tbl doc elems = true ↔ ∃ t, stackParse tbl elems = .ok t ∧ docRead doc (toToks elems) = some t := by
  unfold agree
  split
  · rename_i t t' h1 h2
    rw [h1, h2, beq_iff_eq]
    exact ⟨fun h => ⟨t, rfl, h ▸ rfl⟩, fun ⟨_, ht, ht'⟩ => (Except.ok.inj ht).trans (Option.some.inj ht').symm⟩
  · rename_i hne
    exact ⟨nofun, fun ⟨t, h1, h2⟩ => (hne t t h1 h2).elim⟩

/-- `[u] a b1 b b2 c` with the unary operator (if any) in front of the first, second or third operand -/
def triples (tbl : List OpEntry) : List (List UElem) :=
  let us := unaries tbl
  let bs := binaries tbl
  bs.flatMap fun b1 => bs.flatMap fun b2 =>
    [[⟨[], 0⟩, ⟨[b1], 1⟩, ⟨[b2], 2⟩]] ++
    us.flatMap fun u =>
      [[⟨[u], 0⟩, ⟨[b1], 1⟩, ⟨[b2], 2⟩], [⟨[], 0⟩, ⟨[b1, u], 1⟩, ⟨[b2], 2⟩], [⟨[], 0⟩, ⟨[b1], 1⟩, ⟨[b2, u], 2⟩]]

/-- pairs: `a b1 b`, `u a b1 b`, `a b1 u b`, `u1 u2 a` -/
def pairs (tbl : List OpEntry) : List (List UElem) :=
  let us := unaries tbl
  let bs := binaries tbl
  (bs.flatMap fun b1 => [[⟨[], 0⟩, ⟨[b1], 1⟩]] ++ us.flatMap fun u => [[⟨[u], 0⟩, ⟨[b1], 1⟩], [⟨[], 0⟩, ⟨[b1, u], 1⟩]]) ++
  (us.flatMap fun u1 => us.map fun u2 => [⟨[u1, u2], 0⟩])

def allAgree (tbl : List OpEntry) (doc : List DocOp) : Bool :=
  (pairs tbl).all (agree tbl doc) && (triples tbl).all (agree tbl doc)

theorem mem_unaries {tbl : List OpEntry} {u : String} (h : u ∈ unaries tbl) : (tableFind tbl u true).isSome := by
  obtain ⟨e, he, rfl⟩ := List.mem_map.mp h
  exact List.find?_isSome.mpr ⟨e, (List.mem_filter.mp he).1, by simp [(List.mem_filter.mp he).2]⟩

theorem mem_binaries {tbl : List OpEntry} {b : String} (h : b ∈ binaries tbl) : (tableFind tbl b false).isSome := by
  obtain ⟨e, he, rfl⟩ := List.mem_map.mp h
  exact List.find?_isSome.mpr ⟨e, (List.mem_filter.mp he).1, by simpa using (List.mem_filter.mp he).2⟩

/-- the pairs and triples of any table are well-formed operator strings over it -/
theorem allAgree_of_documents {tbl : List OpEntry} {doc : List DocOp} (hdoc : Documents doc tbl)
    (htbl : ∀ e ∈ tbl, e.unary = false → e.left.isSome) : allAgree tbl doc = true := by
  -- the shapes of the operator strings: a first element with prefix operators `us`, then elements `b us` one after the other
  have start {us : List String} {i : Nat} {es : List UElem} (hus : ∀ u ∈ us, u ∈ unaries tbl) (hes : ∀ e ∈ es, later tbl e) :
      agree tbl doc (⟨us, i⟩ :: es) = true :=
    agree_iff.2 (stackParse_eq_docRead hdoc htbl ⟨us, i⟩ es (fun u hu => mem_unaries (hus u hu)) hes)
  have after {b : String} {us : List String} {i : Nat} {es : List UElem} (hb : b ∈ binaries tbl) (hus : ∀ u ∈ us, u ∈ unaries tbl)
      (hes : ∀ e ∈ es, later tbl e) : ∀ e ∈ ⟨b :: us, i⟩ :: es, later tbl e :=
    List.forall_mem_cons.2 ⟨⟨b, us, rfl, mem_binaries hb, fun u hu => mem_unaries (hus u hu)⟩, hes⟩
  have stop : ∀ e ∈ [], later tbl e := List.forall_mem_nil _
  have bare : ∀ v ∈ [], v ∈ unaries tbl := List.forall_mem_nil _
  have pre {u : String} (hu : u ∈ unaries tbl) : ∀ v ∈ [u], v ∈ unaries tbl := List.forall_mem_singleton.2 hu
  simp only [allAgree, pairs, triples, Bool.and_eq_true, List.all_eq_true, List.mem_append, List.mem_flatMap, List.mem_map,
    List.mem_cons, List.not_mem_nil, or_false]
  constructor
  · rintro _ (⟨b, hb, rfl | ⟨u, hu, rfl | rfl⟩⟩ | ⟨u1, hu1, u2, hu2, rfl⟩)
    · exact start bare (after hb bare stop)
    · exact start (pre hu) (after hb bare stop)
    · exact start bare (after hb (pre hu) stop)
    · exact start (List.forall_mem_cons.2 ⟨hu1, pre hu2⟩) stop
  · rintro _ ⟨b1, hb1, b2, hb2, rfl | ⟨u, hu, rfl | rfl | rfl⟩⟩
    · exact start bare (after hb1 bare (after hb2 bare stop))
    · exact start (pre hu) (after hb1 bare (after hb2 bare stop))
    · exact start bare (after hb1 (pre hu) (after hb2 bare stop))
    · exact start bare (after hb1 bare (after hb2 (pre hu) stop))

/-- `Documents`, decided: every entry of `tbl` is found in `doc` under its own key.  Unlike `tbl.map OpEntry.toDoc = doc` this
    does not depend on the order in which the source lists the operators. -/
def documents (doc : List DocOp) (tbl : List OpEntry) : Bool :=
  tbl.all fun e => DocOp.find doc e.op e.unary == some (OpEntry.toDoc e)

theorem documents_sound {doc : List DocOp} {tbl : List OpEntry} (h : documents doc tbl = true) : Documents doc tbl := by
  intro s u e ht
  obtain ⟨hm, rfl, rfl⟩ := tableFind_some ht
  simpa using List.all_eq_true.mp h e hm

/-- **C07**: for every operator pair and triple of the `&del` table the stack machine reads like the documentation -/
theorem del_pairs_triples : allAgree delTable docDel = true := allAgree_of_documents (documents_sound (by decide +kernel)) (by decide +kernel)

/-- … of the head table (the Python `TheoryParser.table`) -/
theorem head_pairs_triples : allAgree headTablePy docHead = true := allAgree_of_documents (documents_sound (by decide +kernel)) (by decide +kernel)

/-- … of the `#theory tel` head term table -/
theorem head_theory_pairs_triples : allAgree headTableTheory docHead = true := allAgree_of_documents (documents_sound (by decide +kernel)) (by decide +kernel)

/-- … and of the `#theory tel` body term table (the machine as model of gringo's theory-term parser, tied to it by layer L7) -/
theorem body_pairs_triples : allAgree bodyTable docBody = true := allAgree_of_documents (documents_sound (by decide +kernel)) (by decide +kernel)

end TelProofs
