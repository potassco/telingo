/-
Composition of the todo-list model and the `StepData` model over any number of `Theory.translate` calls (model
TelModel/TheoryCall.lean), `theory_atoms_equated`: every ground theory atom met in any call — also one that turns up for a
(formula, step) pair that an earlier call has already translated — ends up equal to the literal of its formula at its step,
because the call that registers it also queues the pair and translates everything queued before it returns (`GoodCall`).
-/
import TelModel.TheoryCall
import TelProofs.TodoProofs
import TelProofs.StepDataProofs

namespace TelProofs.TC
open TelModel

/-- the operations on a pair end with a `translate` -/
def EndsTr (l : List SDOp) : Prop := ∃ ops s, l = ops ++ [SDOp.translate s]

theorem endsTr_append {l1 l2 : List SDOp} (h : EndsTr l2) : EndsTr (l1 ++ l2) := by
  obtain ⟨ops, s, rfl⟩ := h
  exact ⟨l1 ++ ops, s, (List.append_assoc ..).symm⟩

theorem projKey_append (k : TodoKey) (l1 l2 : List (TodoKey × SDOp)) :
    projKey k (l1 ++ l2) = projKey k l1 ++ projKey k l2 := by
  simp [projKey]

theorem mem_projKey {k : TodoKey} {op : SDOp} {l : List (TodoKey × SDOp)} : op ∈ projKey k l ↔ (k, op) ∈ l := by
  simp only [projKey, List.mem_map, List.mem_filter, beq_iff_eq]
  exact ⟨fun ⟨(_, _), ⟨h, rfl⟩, rfl⟩ => h, fun h => ⟨(k, op), ⟨h, rfl⟩, rfl⟩⟩

/-- what the second loop of `Theory.translate` guarantees: every queued pair is translated, and on every pair the operations
    of the loop are none or end with a translation (a registration a formula makes on its own pair is followed by the end of
    its `translate`) -/
structure GoodCall (c : TheoryCall) : Prop where
  covers : ∀ k ∈ c.queue, ∃ s, (k, SDOp.translate s) ∈ c.body
  closed : ∀ k, projKey k c.body = [] ∨ EndsTr (projKey k c.body)

theorem call_proj (c : TheoryCall) (hg : GoodCall c) (k : TodoKey) :
    projKey k c.ops = [] ∨ EndsTr (projKey k c.ops) := by
  rw [TheoryCall.ops, projKey_append]
  rcases hg.closed k with hb | hb
  · -- the body does nothing on `k`: the pair is not queued, so no theory atom of the call belongs to it
    refine .inl (List.eq_nil_iff_forall_not_mem.mpr fun op hop => ?_)
    rw [hb, List.append_nil, mem_projKey] at hop
    obtain ⟨⟨_, a⟩, ha, e⟩ := List.mem_map.mp hop
    cases e
    have hq : k ∈ c.queue :=
      ((todo_exactly_once _).2 k).mpr (List.mem_append_right _ (List.mem_map.mpr ⟨_, ha, rfl⟩))
    obtain ⟨s, hs⟩ := hg.covers k hq
    have := mem_projKey.mpr hs
    rw [hb] at this
    cases this
  · exact .inr (endsTr_append hb)

def runOps (calls : List TheoryCall) : List (TodoKey × SDOp) :=
  calls.flatMap TheoryCall.ops

theorem calls_proj (k : TodoKey) : ∀ (calls : List TheoryCall),
    (∀ p ∈ calls, GoodCall p) → projKey k (runOps calls) = [] ∨ EndsTr (projKey k (runOps calls))
  | [], _ => .inl rfl
  | p :: ps, h => by
    obtain ⟨hp, hps⟩ := List.forall_mem_cons.mp h
    have hcons : runOps (p :: ps) = p.ops ++ runOps ps := rfl
    rw [hcons, projKey_append]
    rcases calls_proj k ps hps with h1 | h1
    · rw [h1, List.append_nil]
      exact call_proj p hp k
    · exact .inr (endsTr_append h1)

theorem theory_atoms_equated (calls : List TheoryCall)
    (ho : ∀ p ∈ calls, GoodCall p) (k : TodoKey) (a : Int) (ha : ∃ p ∈ calls, (k, a) ∈ p.atoms) :
    ∃ l, (StepData.run {} (projKey k (runOps calls))).1.literal = some l ∧
      (a = l ∨ ∀ c ∈ makeEqual a l, SDOut.clause c ∈ (StepData.run {} (projKey k (runOps calls))).2) := by
  obtain ⟨p, hp, ha⟩ := ha
  have hmem : SDOp.addAtom a ∈ projKey k (runOps calls) :=
    mem_projKey.mpr (List.mem_flatMap.mpr ⟨p, hp, List.mem_append_left _ (List.mem_map.mpr ⟨(k, a), ha, rfl⟩)⟩)
  rcases calls_proj k calls ho with h1 | ⟨ops, s, h1⟩
  · rw [h1] at hmem
    cases hmem
  · rw [h1] at hmem ⊢
    have hin : SDOp.addAtom a ∈ ops := by simpa using hmem
    obtain ⟨l, hl, hcov, _⟩ := SD.occurrences_equated ops s
    exact ⟨l, hl, hcov a (SD.mem_added.mpr hin)⟩

end TelProofs.TC
