/-
C12: the answer sets depend on the program only as a *set* of rules.
-/
import TelProofs.GroundLemmas

namespace TelProofs
open TelSpec TelModel

/-- same members (permutation, duplication, redistribution over files all preserve this) -/
def SameRules {α} (P Q : List α) : Prop := ∀ r, r ∈ P ↔ r ∈ Q

theorem stable_mem_congr {rs rs' : List GRule} (hm : SameRules rs rs') (X : Interp) : Stable rs X ↔ Stable rs' X := by
  have hm' : ∀ r, r ∈ rs ↔ r ∈ rs' := hm
  simp only [Stable, hm']

theorem tsm_mem_congr {P Q : TProg} (hm : SameRules P Q) (h : Nat) (T : Trace) : TSM h P T ↔ TSM h Q T := by
  have hm' : ∀ r, r ∈ P ↔ r ∈ Q := hm
  simp only [TSM, hm']

/-- the program clingo solves at horizon `h` depends on the temporal program only as a set of rules: its members
    are described by `mem_G`, `mem_groundAt` and `futureHeads_iff` through membership in `P` alone -/
theorem G_congr {P Q : TProg} (hm : SameRules P Q) (h : Nat) : SameRules (G P h) (G Q h) := by
  have hm' : ∀ r, r ∈ P ↔ r ∈ Q := hm
  have hg (s : Nat) (r' : GRule) : r' ∈ groundAt P s ↔ r' ∈ groundAt Q s := by
    simp only [mem_groundAt, futureHeads_iff, hm']
  intro r'
  simp only [mem_G, mem_accRules, hg]

end TelProofs
