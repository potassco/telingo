/-
The time-argument rewriting commutes with substitution (`addTime_subst`): `TermTransformer` looks at the predicate names, the
classical negations and the pool structure of an atom term and never at the arguments, so rewriting a schema and then
replacing its variables gives the rewriting of the instance — same term, same bookkeeping, same rejections.  The same on whole
statements and programs (`addTimeStmt_subst`, `addTimeProg_subst`: the atoms of a statement in visit order, the bookkeeping
threaded through), by induction on the sequence.
-/
import TelModel.TimeArg
import TelProofs.PyLemmas

namespace TelProofs
open TelModel

mutual
/-- a substitution `σ` applied to every argument of every predicate of an atom term -/
def ATerm.substArgs (σ : String → String) : ATerm → ATerm
  | .fn name args => .fn name (args.map σ)
  | .neg t => .neg (ATerm.substArgs σ t)
  | .pool ts => .pool (ATerm.substArgsL σ ts)
def ATerm.substArgsL (σ : String → String) : List ATerm → List ATerm
  | [] => []
  | t :: ts => ATerm.substArgs σ t :: ATerm.substArgsL σ ts
end

mutual
def RTerm.substArgs (σ : String → String) : RTerm → RTerm
  | .fn name args params => .fn name (args.map σ) params
  | .neg t => .neg (RTerm.substArgs σ t)
  | .pool ts => .pool (RTerm.substArgsL σ ts)
def RTerm.substArgsL (σ : String → String) : List RTerm → List RTerm
  | [] => []
  | t :: ts => RTerm.substArgs σ t :: RTerm.substArgsL σ ts
end

mutual
theorem addTime_subst (rf ff fp : Bool) (σ : String → String) : ∀ (t : ATerm) (pos : Bool) (st : TState),
    addTime rf ff fp pos st (ATerm.substArgs σ t) =
      (addTime rf ff fp pos st t).map (fun p => (RTerm.substArgs σ p.1, p.2))
  | .fn name args, pos, st => by
    simp only [ATerm.substArgs, addTime, RTerm.substArgs, List.length_map, map_eq, map_bind, map_pure]
  | .neg t, pos, st => by
    simp only [ATerm.substArgs, addTime, addTime_subst rf ff fp σ t, RTerm.substArgs,
      map_eq, map_bind, bind_map_left, map_pure]
  | .pool ts, pos, st => by
    simp only [ATerm.substArgs, addTime, addTimes_subst rf ff fp σ ts, RTerm.substArgs,
      map_eq, map_bind, bind_map_left, map_pure]
theorem addTimes_subst (rf ff fp : Bool) (σ : String → String) : ∀ (ts : List ATerm) (pos : Bool) (st : TState),
    addTimes rf ff fp pos st (ATerm.substArgsL σ ts) =
      (addTimes rf ff fp pos st ts).map (fun p => (RTerm.substArgsL σ p.1, p.2))
  | [], pos, st => rfl
  | t :: ts, pos, st => by
    simp only [ATerm.substArgsL, addTimes, addTime_subst rf ff fp σ t, addTimes_subst rf ff fp σ ts, RTerm.substArgsL,
      map_eq, map_bind, bind_map_left, map_pure]
end

def AtomOcc.subst (σ : String → String) (o : AtomOcc) : AtomOcc := { o with term := ATerm.substArgs σ o.term }

theorem addTimeStmt_subst (σ : String → String) : ∀ (os : List AtomOcc) (st : TState),
    addTimeStmt (os.map (AtomOcc.subst σ)) st =
      (addTimeStmt os st).map (fun p => (p.1.map (RTerm.substArgs σ), p.2))
  | [], st => rfl
  | o :: os, st => by
    simp only [List.map_cons, addTimeStmt, AtomOcc.subst, addTime_subst, addTimeStmt_subst σ os,
      map_eq, map_bind, bind_map_left, map_pure]

theorem addTimeProg_subst (σ : String → String) : ∀ (ss : List (List AtomOcc)) (st : TState),
    addTimeProg (ss.map (List.map (AtomOcc.subst σ))) st =
      (addTimeProg ss st).map (fun p => (p.1.map (List.map (RTerm.substArgs σ)), p.2))
  | [], st => rfl
  | s :: ss, st => by
    simp only [List.map_cons, addTimeProg, addTimeStmt_subst, addTimeProg_subst σ ss,
      map_eq, map_bind, bind_map_left, map_pure]

end TelProofs
