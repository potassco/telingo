/-
C17: cutting a temporal stable model of a past-only program (core rule fragment, plus `&tel` body atoms with past-only
formulas) to an earlier horizon gives a temporal stable model of that horizon (`tsm_cut`): a past-only rule at position
`k` sees neither the horizon nor the here-trace after `k` (`satAt_congr`).  Through `core_stable_iff` the same holds of the
model's accumulated ground program (`stable_cut`).
-/
import TelProofs.FullEquiv
import TelProofs.ThtCongr

namespace TelProofs
open TelSpec TelModel

/-- formulas that only look backwards: no future operator, no `&final` -/
def pastF : SForm → Bool
  | .atom _ => true
  | .kw w => match w with | .kfinal => false | _ => true
  | .neg f => pastF f
  | .bin _ l r => pastF l && pastF r
  | .prev _ _ f => pastF f
  | .since l r => pastF l && pastF r
  | .trigger l r => pastF l && pastF r
  | .evP r => pastF r
  | .alP r => pastF r
  | .initially f => pastF f
  | .seqPrev _ l r => pastF l && pastF r
  | _ => false

/-- past-only body literals, including `&tel` atoms whose formula only looks backwards -/
def litPastT : BLit → Bool
  | .atom _ _ sh => decide (sh ≤ 0)
  | .init _ _ => true
  | .kw _ w => match w with | .kfinal => false | _ => true
  | .tel _ f => pastF f
  | .del _ _ => false

/-- past-only rule, possibly with past `&tel` formulas in the body -/
def rulePastT (r : TRule) : Bool := headCore r.head && r.body.all litPastT && (r.part != .final)
def progPastT (P : TProg) : Bool := P.all rulePastT

def litPast : BLit → Bool
  | .atom _ _ sh => decide (sh ≤ 0)
  | .init _ _ => true
  | .kw _ w => match w with | .kfinal => false | _ => true
  | .tel _ _ => false
  | .del _ _ => false

/-- past-only rule of the core fragment: no `final` part, no `&final`, no future reference -/
def rulePast (r : TRule) : Bool := headCore r.head && r.body.all litPast && (r.part != .final)
def progPast (P : TProg) : Bool := P.all rulePast

theorem litPast_T {l : BLit} (h : litPast l = true) : litPastT l = true := by
  cases l with
  | tel => cases h
  | _ => exact h

theorem litPast_core {l : BLit} (h : litPast l = true) : litCore l = true := by
  cases l with
  | atom => exact h
  | init | kw => rfl
  | tel | del => cases h

theorem progPast_T {P : TProg} (h : progPast P = true) : progPastT P = true := by
  refine all_mono (fun r _ hr => ?_) h
  simp only [rulePast, rulePastT, Bool.and_eq_true] at hr ⊢
  exact ⟨⟨hr.1.1, all_mono (fun _ _ => litPast_T) hr.1.2⟩, hr.2⟩

theorem progPast_core {P : TProg} (h : progPast P = true) : progCore P = true := by
  refine all_mono (fun r _ hr => ?_) h
  simp only [rulePast, ruleCore, Bool.and_eq_true] at hr ⊢
  exact ⟨hr.1.1, all_mono (fun _ _ => litPast_core) hr.1.2⟩

/-- a past-only formula does not see the horizon at all: in the clauses of `tht` for the past operators the horizon
    occurs in the recursive calls only -/
theorem tht_horizon (h h' : Nat) (f : SForm) (hp : pastF f = true) :
    ∀ (W T : Trace) (k : Nat), tht h W T f k = tht h' W T f k := by
  induction f with
  | atom a => exact fun _ _ _ => rfl
  | kw w =>
    cases w with
    | kfinal => cases hp
    | _ => exact fun _ _ _ => rfl
  | neg f ih | prev n w f ih | evP f ih | alP f ih | initially f ih =>
    intro W T k
    simp only [tht, ih hp]
  | bin op l r ihl ihr =>
    obtain ⟨hl, hr⟩ := (Bool.and_eq_true _ _).mp hp
    intro W T k
    simp only [tht_bin, ihl hl, ihr hr]
  | since l r ihl ihr | trigger l r ihl ihr | seqPrev w l r ihl ihr =>
    obtain ⟨hl, hr⟩ := (Bool.and_eq_true _ _).mp hp
    intro W T k
    simp only [tht, ihl hl, ihr hr]
  | next | unt | rel | evF | alF | finally_ | seqNext => cases hp

section
variable {h h' k : Nat} (hk : k ≤ h) (hk' : k ≤ h') {W W' : Trace} (T : Trace)
include hk hk'

theorem lit_past_congr (hag : TraceEq k W W') (l : BLit) (hl : litPastT l = true) :
    l.holds h W T k = l.holds h' W' T k := by
  cases l with
  | atom sg a sh =>
    simp only [litPastT, decide_eq_true_eq] at hl
    -- the position `k + sh` lies within both horizons or before both traces
    have hpos (m : Nat) (hm : k ≤ m) : (k : Int) + sh ≤ m := by omega
    have hb : (k : Int) + sh ≤ h ↔ (k : Int) + sh ≤ h' := iff_of_true (hpos h hk) (hpos h' hk')
    simp only [BLit.holds, atPos_congr (W := W) hb fun _ _ => hag _ (Int.toNat_le.mpr (hpos k (Nat.le_refl k))) a,
      atPos_congr (W := T) hb fun _ _ => rfl]
  | init sg a => simp only [BLit.holds, hag 0 (Nat.zero_le _) a]
  | kw sg w =>
    cases w with
    | kfinal => cases hl
    | _ => rfl
  | tel sg f => simp only [BLit.holds, docSem, tht_horizon h h' f hl]
  | del _ _ => cases hl

theorem head_past_congr (hag : ∀ a, W k a = W' k a) (hd : Head) (hc : headCore hd = true) :
    hd.holds h W T k = hd.holds h' W' T k := by
  cases hd with
  | atom a n =>
    obtain rfl : n = 0 := by simpa [headCore] using hc
    simp only [Head.holds, Int.natCast_zero, Int.add_zero, atPos_nat hk, atPos_nat hk', hag]
  | disj as | choice as => simp only [Head.holds, hag]
  | falsum => rfl
  | nlit | tel => cases hc

theorem satAt_congr (hag : TraceEq k W W') (r : TRule) (hr : rulePastT r = true) :
    satAt h W T r k = satAt h' W' T r k := by
  simp only [rulePastT, Bool.and_eq_true, bne_iff_ne, ne_eq] at hr
  have hp : r.part.applies h k = r.part.applies h' k := by
    cases hpart : r.part with
    | final => exact absurd hpart hr.2
    | _ => rfl
  rw [satAt, satAt, hp, head_past_congr hk hk' T (hag k (Nat.le_refl k)) r.head hr.1.1,
    all_congr_mem fun l hl => lit_past_congr hk hk' T hag l (List.all_eq_true.mp hr.1.2 l hl)]

end

/-- **prefix theorem on the specification**: cutting a temporal stable model of a past-only program to a shorter
    horizon gives a temporal stable model of that horizon -/
theorem tsm_cut (P : TProg) (hp : progPastT P = true) {h h' : Nat} (hh : h ≤ h') (T : Trace) (hT : TSM h' P T) : TSM h P T := by
  have hrp := List.all_eq_true.mp hp
  constructor
  · intro r hr
    rw [sat_iff_satAt]
    intro k hk
    rw [satAt_congr hk (Nat.le_trans hk hh) T (fun _ _ _ => rfl) r (hrp r hr)]
    exact (sat_iff_satAt h' T T r).mp (hT.1 r hr) k (Nat.le_trans hk hh)
  · intro W hle hW
    -- extend `W` by the later states of `T`
    let W' : Trace := fun j a => if j ≤ h then W j a else T j a
    have hW'in : ∀ j, j ≤ h → ∀ a, W' j a = W j a := fun j hj a => if_pos hj
    have hW'out : ∀ j, ¬ j ≤ h → ∀ a, W' j a = T j a := fun j hj a => if_neg hj
    have hle' : TraceLe h' W' T := by
      intro j _ a hw
      by_cases hj : j ≤ h
      · exact hle j hj a (hW'in j hj a ▸ hw)
      · exact hW'out j hj a ▸ hw
    have hW' : ∀ r ∈ P, r.sat h' W' T = true := by
      intro r hr
      rw [sat_iff_satAt]
      intro k hk
      by_cases hkh : k ≤ h
      · -- inside the shorter trace `W'` is `W`
        rw [satAt_congr hk hkh T (fun j hj a => hW'in j (Nat.le_trans hj hkh) a) r (hrp r hr)]
        exact (sat_iff_satAt h W T r).mp (hW r hr) k hkh
      · -- beyond it `W'` is `T` at the position itself, and bodies are monotone
        have hrp' := hrp r hr
        simp only [rulePastT, Bool.and_eq_true] at hrp'
        have hTk := (sat_iff_satAt h' T T r).mp (hT.1 r hr) k hk
        simp only [satAt, Bool.or_eq_true, Bool.not_eq_true'] at hTk ⊢
        rcases hTk with (hTk | hTk) | hTk
        · exact Or.inl (Or.inl hTk)
        · refine Or.inl (Or.inr (Bool.eq_false_iff.mpr fun hb => ?_))
          rw [body_holds_mono hle' k hb] at hTk
          cases hTk
        · exact Or.inr (head_past_congr hk hk T (hW'out k hkh) r.head hrp'.1.1 ▸ hTk)
    intro k hk a
    rw [← hW'in k hk a]
    exact hT.2 W' hle' hW' k (Nat.le_trans hk hh) a

theorem tsm_prefix_tel (P : TProg) (hp : progPastT P = true) (h : Nat) (T : Trace) (hT : TSM (h+1) P T) : TSM h P T :=
  tsm_cut P hp (Nat.le_succ h) T hT

/-- the rule fragment without theory atoms -/
theorem tsm_prefix (P : TProg) (hp : progPast P = true) (h : Nat) (T : Trace) (hT : TSM (h+1) P T) : TSM h P T :=
  tsm_prefix_tel P (progPast_T hp) h T hT

/-- **C17 on the model**: the first `h+1` states of every stable model of the accumulated ground program at a later
    horizon form a stable model of the accumulated ground program at horizon `h` -/
theorem stable_cut (P : TProg) (hp : progPast P = true) {h h' : Nat} (hh : h ≤ h') (X : Interp) (hs : Stable (G P h') X) :
    Stable (G P h) (embed h (traceOf X)) :=
  have hc := progPast_core hp
  (core_stable_iff P hc h).2 _ (tsm_cut P (progPast_T hp) hh _ ((core_stable_iff P hc h').1 X hs).1)

end TelProofs
