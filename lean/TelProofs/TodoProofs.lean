/-
The todo list holds every requested (step, formula) pair exactly once (`todo_exactly_once`): requesting a pair again — the
same sub-formula in several theory atoms, a repeated statement — changes nothing, and which pairs are queued does not depend
on the order of the requests (`todo_set_independent`).
-/
import TelModel.Todo

namespace TelProofs
open TelModel

def TodoInv (st : TodoState) : Prop := (∀ k, k ∈ st.keys ↔ k ∈ st.todo) ∧ st.todo.Nodup

theorem addTodo_inv (st : TodoState) (k : TodoKey) (h : TodoInv st) :
    TodoInv (addTodo st k) ∧ ∀ x, x ∈ (addTodo st k).todo ↔ x = k ∨ x ∈ st.todo := by
  unfold addTodo
  split
  next hk =>
    have hk' : k ∈ st.todo := (h.1 k).mp (List.contains_iff_mem.mp hk)
    exact ⟨h, fun x => ⟨.inr, fun hx => hx.elim (· ▸ hk') id⟩⟩
  next hk =>
    have hk' : k ∉ st.todo := fun hm => hk (List.contains_iff_mem.mpr ((h.1 k).mpr hm))
    have hmem : ∀ x, x ∈ st.todo ++ [k] ↔ x = k ∨ x ∈ st.todo := fun x => by
      rw [List.mem_append, List.mem_singleton, or_comm]
    refine ⟨⟨fun x => ?_, ?_⟩, hmem⟩
    · rw [hmem, List.mem_cons, h.1 x]
    · exact (List.perm_append_singleton k st.todo).nodup_iff.mpr (List.nodup_cons.mpr ⟨hk', h.2⟩)

theorem foldl_addTodo : ∀ (ks : List TodoKey) (st : TodoState), TodoInv st →
    TodoInv (ks.foldl addTodo st) ∧ ∀ x, x ∈ (ks.foldl addTodo st).todo ↔ x ∈ ks ∨ x ∈ st.todo
  | [], _, h => ⟨h, fun x => by simp⟩
  | k :: ks, st, h => by
    obtain ⟨h1, h2⟩ := addTodo_inv st k h
    obtain ⟨i1, i2⟩ := foldl_addTodo ks _ h1
    refine ⟨i1, fun x => ?_⟩
    rw [List.foldl_cons, i2 x, h2 x, List.mem_cons]
    exact or_left_comm.trans or_assoc.symm

theorem todo_exactly_once (ks : List TodoKey) :
    (todoAfter ks).Nodup ∧ ∀ x, x ∈ todoAfter ks ↔ x ∈ ks := by
  have h := foldl_addTodo ks {} ⟨fun k => by simp, List.nodup_nil⟩
  refine ⟨h.1.2, fun x => ?_⟩
  rw [todoAfter, h.2 x]
  exact or_iff_left List.not_mem_nil

theorem todo_set_independent (ks ks' : List TodoKey) (h : ∀ x, x ∈ ks ↔ x ∈ ks') :
    ∀ x, x ∈ todoAfter ks ↔ x ∈ todoAfter ks' := by
  intro x
  rw [(todo_exactly_once ks).2 x, (todo_exactly_once ks').2 x]
  exact h x

end TelProofs
