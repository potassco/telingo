/-
Bounded quantifiers of the specification (`anyUpTo`, `allBetween`, …) as propositions, and the eight
inductive temporal operators as functions of Boolean sequences.  `since` is treated in full; `until` is
`since` read from the other end of the trace, `trigger`/`release`/`always` are the De Morgan duals and
`eventually` is `since`/`until` with a true left operand, so their laws are corollaries.
-/
import TelSpec.Formula

namespace TelProofs
open TelSpec

theorem anyUpTo_iff (n : Nat) (p : Nat → Bool) : anyUpTo n p = true ↔ ∃ j, j ≤ n ∧ p j = true := by
  simp [anyUpTo, List.any_eq_true, List.mem_range, Nat.lt_succ_iff]

theorem allUpTo_iff (n : Nat) (p : Nat → Bool) : allUpTo n p = true ↔ ∀ j, j ≤ n → p j = true := by
  simp [allUpTo, List.all_eq_true, List.mem_range, Nat.lt_succ_iff]

theorem anyBetween_iff (lo hi : Nat) (p : Nat → Bool) :
    anyBetween lo hi p = true ↔ ∃ j, lo ≤ j ∧ j ≤ hi ∧ p j = true := by
  simp only [anyBetween, List.any_eq_true, List.mem_range, Nat.lt_succ_iff, Bool.and_eq_true, decide_eq_true_eq]
  exact ⟨fun ⟨j, h1, h2, h3⟩ => ⟨j, h2, h1, h3⟩, fun ⟨j, h1, h2, h3⟩ => ⟨j, h2, h1, h3⟩⟩

theorem allBetween_iff (lo hi : Nat) (p : Nat → Bool) :
    allBetween lo hi p = true ↔ ∀ j, lo ≤ j → j ≤ hi → p j = true := by
  simp only [allBetween, List.all_eq_true, List.mem_range, Nat.lt_succ_iff, Bool.or_eq_true, decide_eq_true_eq]
  exact ⟨fun h j h1 h2 => (h j h2).resolve_left (Nat.not_lt.mpr h1),
    fun h j h2 => (Nat.lt_or_ge j lo).imp_right fun h1 => h j h1 h2⟩

theorem allUpTo_eq_not_any (n : Nat) (p : Nat → Bool) : allUpTo n p = !anyUpTo n fun j => !p j := by
  simp only [allUpTo, anyUpTo, List.not_any_eq_all_not, Bool.not_not]

theorem allBetween_eq_not_any (lo hi : Nat) (p : Nat → Bool) :
    allBetween lo hi p = !anyBetween lo hi fun j => !p j := by
  simp only [allBetween, anyBetween, List.not_any_eq_all_not, Bool.not_and, Bool.not_not, ← decide_not, Nat.not_le]

theorem allUpTo_eq_allBetween (n : Nat) (p : Nat → Bool) : allUpTo n p = allBetween 0 n p := by
  simp [allUpTo, allBetween]

theorem allBetween_true (lo hi : Nat) : allBetween lo hi (fun _ => true) = true := by
  simp [allBetween]

theorem allBetween_guard {lo hi m : Nat} (h1 : lo ≤ m) (h2 : m ≤ hi) (p : Nat → Bool) :
    allBetween lo hi (fun j => !(j == m) || p j) = p m := by
  apply Bool.eq_iff_iff.mpr
  simp only [allBetween_iff, Bool.or_eq_true, Bool.not_eq_true', beq_eq_false_iff_ne]
  constructor
  · intro hh
    exact (hh m h1 h2).resolve_left (fun hne => hne rfl)
  · intro hp j _ _
    by_cases hj : j = m
    · subst hj
      exact Or.inr hp
    · exact Or.inl hj

def sinceB (l r : Nat → Bool) (k : Nat) : Bool := anyUpTo k fun j => r j && allBetween (j+1) k fun i => l i
def triggerB (l r : Nat → Bool) (k : Nat) : Bool := allUpTo k fun j => r j || anyBetween (j+1) k fun i => l i
def evPB (r : Nat → Bool) (k : Nat) : Bool := anyUpTo k fun j => r j
def alPB (r : Nat → Bool) (k : Nat) : Bool := allUpTo k fun j => r j
-- as in `tht`: `j - 1` truncates at `j = 0`, and the guard on `i` empties the range `k..j-1` there (`untilB_iff` has the plain reading)
def untilB (h : Nat) (l r : Nat → Bool) (k : Nat) : Bool :=
  anyBetween k h fun j => r j && allBetween k (j-1) fun i => decide (i ≥ j) || l i
def releaseB (h : Nat) (l r : Nat → Bool) (k : Nat) : Bool :=
  allBetween k h fun j => r j || anyBetween k (j-1) fun i => decide (i < j) && l i
def evFB (h : Nat) (r : Nat → Bool) (k : Nat) : Bool := anyBetween k h fun j => r j
def alFB (h : Nat) (r : Nat → Bool) (k : Nat) : Bool := allBetween k h fun j => r j

/-! ### the other six in terms of `since` and `until` -/

theorem triggerB_dual (l r : Nat → Bool) (k : Nat) :
    triggerB l r k = !sinceB (fun i => !l i) (fun i => !r i) k := by
  simp only [triggerB, sinceB, allUpTo_eq_not_any, allBetween_eq_not_any, Bool.not_or, Bool.not_not]

theorem releaseB_dual (h : Nat) (l r : Nat → Bool) (k : Nat) :
    releaseB h l r k = !untilB h (fun i => !l i) (fun i => !r i) k := by
  simp only [releaseB, untilB, allBetween_eq_not_any, Bool.not_or, Bool.not_not, ← decide_not, Nat.not_le]

theorem alPB_dual (r : Nat → Bool) (k : Nat) : alPB r k = !evPB (fun i => !r i) k :=
  allUpTo_eq_not_any k r

theorem alFB_dual (h : Nat) (r : Nat → Bool) (k : Nat) : alFB h r k = !evFB h (fun i => !r i) k :=
  allBetween_eq_not_any k h r

theorem evPB_eq_sinceB (r : Nat → Bool) (k : Nat) : evPB r k = sinceB (fun _ => true) r k := by
  simp only [evPB, sinceB, allBetween_true, Bool.and_true]

theorem evFB_eq_untilB (h : Nat) (r : Nat → Bool) (k : Nat) : evFB h r k = untilB h (fun _ => true) r k := by
  simp only [evFB, untilB, Bool.or_true, allBetween_true, Bool.and_true]

theorem alPB_eq_triggerB (r : Nat → Bool) (k : Nat) : alPB r k = triggerB (fun _ => false) r k := by
  rw [alPB_dual, evPB_eq_sinceB, triggerB_dual]
  rfl

theorem alFB_eq_releaseB (h : Nat) (r : Nat → Bool) (k : Nat) : alFB h r k = releaseB h (fun _ => false) r k := by
  rw [alFB_dual, evFB_eq_untilB, releaseB_dual]
  rfl

/-! ### `since` -/

theorem sinceB_iff (l r : Nat → Bool) (k : Nat) :
    sinceB l r k = true ↔ ∃ j, j ≤ k ∧ r j = true ∧ ∀ i, j < i → i ≤ k → l i = true := by
  simp only [sinceB, anyUpTo_iff, Bool.and_eq_true, allBetween_iff, Nat.add_one_le_iff]

theorem sinceB_zero (l r : Nat → Bool) : sinceB l r 0 = r 0 := by
  simp [sinceB, anyUpTo, allBetween]

theorem sinceB_succ (l r : Nat → Bool) (k : Nat) :
    sinceB l r (k+1) = (r (k+1) || (l (k+1) && sinceB l r k)) := by
  apply Bool.eq_iff_iff.mpr
  simp only [Bool.or_eq_true, Bool.and_eq_true, sinceB_iff]
  constructor
  · rintro ⟨j, h1, h2, h3⟩
    by_cases hj : j = k+1
    · subst hj
      exact Or.inl h2
    · have hjk : j < k+1 := Nat.lt_of_le_of_ne h1 hj
      exact Or.inr ⟨h3 (k+1) hjk (Nat.le_refl _), j, Nat.le_of_lt_succ hjk, h2,
        fun i hi hk => h3 i hi (Nat.le_succ_of_le hk)⟩
  · rintro (h | ⟨h1, j, h2, h3, h4⟩)
    · exact ⟨k+1, Nat.le_refl _, h, fun i h1 h2 => absurd h2 (Nat.not_le.mpr h1)⟩
    · refine ⟨j, Nat.le_succ_of_le h2, h3, fun i hi hk => ?_⟩
      by_cases hik : i = k+1
      · subst hik
        exact h1
      · exact h4 i hi (Nat.le_of_lt_succ (Nat.lt_of_le_of_ne hk hik))

-- `hk`: a past operator reads the positions `0..k`; its future twin reads `k..h` by its own bound and needs no such hypothesis
theorem sinceB_congr {h : Nat} {l l' r r' : Nat → Bool} {k : Nat}
    (hl : ∀ j, j ≤ h → l j = l' j) (hr : ∀ j, j ≤ h → r j = r' j) (hk : k ≤ h) : sinceB l r k = sinceB l' r' k := by
  apply Bool.eq_iff_iff.mpr
  simp only [sinceB_iff]
  refine exists_congr fun j => and_congr_right fun hj => ?_
  rw [hr j (Nat.le_trans hj hk)]
  refine and_congr_right fun _ => forall_congr' fun i => forall_congr' fun _ => forall_congr' fun hi => ?_
  rw [hl i (Nat.le_trans hi hk)]

/-! ### `until`, and `since` as its mirror image -/

theorem untilB_iff (h : Nat) (l r : Nat → Bool) (k : Nat) :
    untilB h l r k = true ↔ ∃ j, k ≤ j ∧ j ≤ h ∧ r j = true ∧ ∀ i, k ≤ i → i < j → l i = true := by
  simp only [untilB, anyBetween_iff, Bool.and_eq_true, allBetween_iff, Bool.or_eq_true, decide_eq_true_eq]
  constructor
  · rintro ⟨j, h1, h2, h3, h4⟩
    exact ⟨j, h1, h2, h3, fun i hi hj => (h4 i hi (Nat.le_sub_one_of_lt hj)).resolve_left (Nat.not_le.mpr hj)⟩
  · rintro ⟨j, h1, h2, h3, h4⟩
    exact ⟨j, h1, h2, h3, fun i hi _ => (Nat.lt_or_ge i j).symm.imp_right (h4 i hi)⟩

theorem untilB_congr {h : Nat} {l l' r r' : Nat → Bool} {k : Nat}
    (hl : ∀ j, j ≤ h → l j = l' j) (hr : ∀ j, j ≤ h → r j = r' j) : untilB h l r k = untilB h l' r' k := by
  apply Bool.eq_iff_iff.mpr
  simp only [untilB_iff]
  refine exists_congr fun j => and_congr_right fun _ => and_congr_right fun hj => ?_
  rw [hr j hj]
  refine and_congr_right fun _ => forall_congr' fun i => forall_congr' fun _ => forall_congr' fun hi => ?_
  rw [hl i (Nat.le_trans (Nat.le_of_lt hi) hj)]

/-- `p'` is `p` read from the other end of a trace of length `h+1`; `α` is `Bool` for value sequences and
    `String → Bool` for traces.  The `…_rev` lemmas go from a past operator to its future mirror image; `.symm` on
    hypotheses and conclusion gives the other direction. -/
def Rev {α : Type} (h : Nat) (p p' : Nat → α) : Prop := ∀ j, j ≤ h → p j = p' (h - j)

theorem Rev.flip {α : Type} (h : Nat) (p : Nat → α) : Rev h p (fun j => p (h - j)) :=
  fun _ hj => (congrArg p (Nat.sub_sub_self hj)).symm

theorem Rev.symm {α : Type} {h : Nat} {p p' : Nat → α} (hp : Rev h p p') : Rev h p' p :=
  fun j hj => by rw [hp _ (Nat.sub_le h j), Nat.sub_sub_self hj]

theorem Rev.not {h : Nat} {p p' : Nat → Bool} (hp : Rev h p p') : Rev h (fun i => !p i) (fun i => !p' i) :=
  fun j hj => congrArg Bool.not (hp j hj)

theorem Rev.and {h : Nat} {p p' q q' : Nat → Bool} (hp : Rev h p p') (hq : Rev h q q') :
    Rev h (fun i => p i && q i) (fun i => p' i && q' i) :=
  fun j hj => congr (congrArg Bool.and (hp j hj)) (hq j hj)

theorem prev_rev {h : Nat} (n : Nat) (w : Bool) {p p' : Nat → Bool} (hp : Rev h p p') :
    Rev h (fun k => if n ≤ k then p (k - n) else w) (fun k => if k + n ≤ h then p' (k + n) else w) := by
  intro k hk
  show (if n ≤ k then p (k - n) else w) = if h - k + n ≤ h then p' (h - k + n) else w
  have hcond : h - k + n ≤ h ↔ n ≤ k := by
    rw [← Nat.le_sub_iff_add_le' (Nat.sub_le h k), Nat.sub_sub_self hk]
  by_cases hn : n ≤ k
  · have hle := hcond.mpr hn
    rw [if_pos hn, if_pos hle, hp.symm _ hle, Nat.sub_add_eq, Nat.sub_sub_self hk]
  · rw [if_neg hn, if_neg (mt hcond.mp hn)]

/-! Reading positions from the other end of `0..h` reverses their order. -/

theorem sub_le_swap {h i k : Nat} (hi : h - k ≤ i) : h - i ≤ k :=
  Nat.sub_le_iff_le_add.mpr (Nat.sub_le_iff_le_add'.mp hi)

theorem lt_sub_swap {h i j : Nat} (hi : i < h - j) : j < h - i :=
  Nat.lt_sub_iff_add_lt'.mpr (Nat.lt_sub_iff_add_lt.mp hi)

theorem sub_lt_swap {h i j : Nat} (hj : j ≤ h) (hi : i ≤ h) (hji : h - j < i) : h - i < j :=
  (Nat.sub_lt_iff_lt_add' hi).mpr ((Nat.sub_lt_iff_lt_add hj).mp hji)

theorem sinceB_rev {h : Nat} {l r l' r' : Nat → Bool} (hl : Rev h l l') (hr : Rev h r r') :
    Rev h (sinceB l r) (untilB h l' r') := by
  intro k hk
  apply Bool.eq_iff_iff.mpr
  rw [sinceB_iff, untilB_iff]
  constructor
  · rintro ⟨j, h1, h2, h3⟩
    refine ⟨h - j, Nat.sub_le_sub_left h1 h, Nat.sub_le h j, hr j (Nat.le_trans h1 hk) ▸ h2, fun i hi1 hi2 => ?_⟩
    have hi : i ≤ h := Nat.le_trans (Nat.le_of_lt hi2) (Nat.sub_le h j)
    rw [← Nat.sub_sub_self hi, ← hl _ (Nat.sub_le h i)]
    exact h3 (h - i) (lt_sub_swap hi2) (sub_le_swap hi1)
  · rintro ⟨j, h1, h2, h3, h4⟩
    refine ⟨h - j, sub_le_swap h1, ?_, fun i hi1 hi2 => ?_⟩
    · rwa [hr _ (Nat.sub_le h j), Nat.sub_sub_self h2]
    · have hi : i ≤ h := Nat.le_trans hi2 hk
      rw [hl i hi]
      exact h4 (h - i) (Nat.sub_le_sub_left hi2 h) (sub_lt_swap h2 hi hi1)

theorem untilB_unfold (h : Nat) (l r : Nat → Bool) (k : Nat) (hk : k ≤ h) :
    untilB h l r k = (r k || (l k && (if k + 1 ≤ h then untilB h l r (k+1) else false))) := by
  -- unfolding `until` at its first position is unfolding the mirrored `since` at its last
  have rev : Rev h (untilB h l r) (sinceB (fun j => l (h - j)) fun j => r (h - j)) :=
    (sinceB_rev (Rev.flip h l).symm (Rev.flip h r).symm).symm
  rw [rev k hk]
  split
  · rename_i hlast
    have e : h - k = h - (k+1) + 1 := (Nat.sub_add_cancel (Nat.sub_pos_of_lt hlast)).symm
    rw [rev (k+1) hlast, e, sinceB_succ, ← e, Nat.sub_sub_self hk]
  · rename_i hlast
    obtain rfl : k = h := Nat.le_antisymm hk (Nat.not_lt.mp hlast)
    rw [Nat.sub_self, sinceB_zero, Nat.sub_zero, Bool.and_false, Bool.or_false]

/-! ### `trigger` and `release`, by duality -/

theorem releaseB_iff (h : Nat) (l r : Nat → Bool) (k : Nat) :
    releaseB h l r k = true ↔ ∀ j, k ≤ j → j ≤ h → r j = true ∨ ∃ i, k ≤ i ∧ i < j ∧ l i = true := by
  simp only [releaseB, allBetween_iff, Bool.or_eq_true, anyBetween_iff, Bool.and_eq_true, decide_eq_true_eq]
  refine forall_congr' fun j => forall_congr' fun _ => forall_congr' fun _ => or_congr_right (exists_congr fun i => ?_)
  -- `i ≤ j - 1` is in the definition for the shape of the range only, as in `untilB`
  exact ⟨fun ⟨hk, _, hij, hl⟩ => ⟨hk, hij, hl⟩, fun ⟨hk, hij, hl⟩ => ⟨hk, Nat.le_sub_one_of_lt hij, hij, hl⟩⟩

theorem triggerB_zero (l r : Nat → Bool) : triggerB l r 0 = r 0 := by
  rw [triggerB_dual, sinceB_zero, Bool.not_not]

theorem triggerB_succ (l r : Nat → Bool) (k : Nat) :
    triggerB l r (k+1) = (r (k+1) && (l (k+1) || triggerB l r k)) := by
  simp only [triggerB_dual, sinceB_succ, Bool.not_or, Bool.not_and, Bool.not_not]

theorem triggerB_congr {h : Nat} {l l' r r' : Nat → Bool} {k : Nat}
    (hl : ∀ j, j ≤ h → l j = l' j) (hr : ∀ j, j ≤ h → r j = r' j) (hk : k ≤ h) : triggerB l r k = triggerB l' r' k := by
  rw [triggerB_dual, triggerB_dual,
    sinceB_congr (fun j hj => congrArg not (hl j hj)) (fun j hj => congrArg not (hr j hj)) hk]

theorem releaseB_unfold (h : Nat) (l r : Nat → Bool) (k : Nat) (hk : k ≤ h) :
    releaseB h l r k = (r k && (l k || (if k + 1 ≤ h then releaseB h l r (k+1) else true))) := by
  rw [releaseB_dual, releaseB_dual, untilB_unfold h _ _ k hk]
  split <;> simp only [Bool.not_or, Bool.not_and, Bool.not_not, Bool.not_false]

theorem releaseB_congr {h : Nat} {l l' r r' : Nat → Bool} {k : Nat}
    (hl : ∀ j, j ≤ h → l j = l' j) (hr : ∀ j, j ≤ h → r j = r' j) : releaseB h l r k = releaseB h l' r' k := by
  rw [releaseB_dual, releaseB_dual,
    untilB_congr (fun j hj => congrArg not (hl j hj)) (fun j hj => congrArg not (hr j hj))]

theorem triggerB_rev {h : Nat} {l r l' r' : Nat → Bool} (hl : Rev h l l') (hr : Rev h r r') :
    Rev h (triggerB l r) (releaseB h l' r') := by
  intro k hk
  rw [triggerB_dual, releaseB_dual, sinceB_rev hl.not hr.not k hk]

/-! ### `eventually`: `since`/`until` with a true left operand -/

theorem evPB_zero (r : Nat → Bool) : evPB r 0 = r 0 := by
  rw [evPB_eq_sinceB, sinceB_zero]

theorem evPB_succ (r : Nat → Bool) (k : Nat) : evPB r (k+1) = (r (k+1) || evPB r k) := by
  rw [evPB_eq_sinceB, evPB_eq_sinceB, sinceB_succ, Bool.true_and]

theorem evPB_congr {h : Nat} {r r' : Nat → Bool} {k : Nat} (hr : ∀ j, j ≤ h → r j = r' j) (hk : k ≤ h) :
    evPB r k = evPB r' k := by
  rw [evPB_eq_sinceB, evPB_eq_sinceB, sinceB_congr (fun _ _ => rfl) hr hk]

theorem evFB_unfold (h : Nat) (r : Nat → Bool) (k : Nat) (hk : k ≤ h) :
    evFB h r k = (r k || (if k + 1 ≤ h then evFB h r (k+1) else false)) := by
  rw [evFB_eq_untilB, evFB_eq_untilB, untilB_unfold h _ _ k hk, Bool.true_and]

theorem evFB_congr {h : Nat} {r r' : Nat → Bool} {k : Nat} (hr : ∀ j, j ≤ h → r j = r' j) :
    evFB h r k = evFB h r' k := by
  rw [evFB_eq_untilB, evFB_eq_untilB, untilB_congr (fun _ _ => rfl) hr]

theorem evPB_rev {h : Nat} {r r' : Nat → Bool} (hr : Rev h r r') : Rev h (evPB r) (evFB h r') := by
  intro k hk
  rw [evPB_eq_sinceB, evFB_eq_untilB]
  exact sinceB_rev (l' := fun _ => true) (fun _ _ => rfl) hr k hk

/-! ### `always`, by duality -/

theorem alPB_zero (r : Nat → Bool) : alPB r 0 = r 0 := by
  rw [alPB_dual, evPB_zero, Bool.not_not]

theorem alPB_succ (r : Nat → Bool) (k : Nat) : alPB r (k+1) = (r (k+1) && alPB r k) := by
  simp only [alPB_dual, evPB_succ, Bool.not_or, Bool.not_not]

theorem alPB_congr {h : Nat} {r r' : Nat → Bool} {k : Nat} (hr : ∀ j, j ≤ h → r j = r' j) (hk : k ≤ h) :
    alPB r k = alPB r' k := by
  rw [alPB_dual, alPB_dual, evPB_congr (fun j hj => congrArg not (hr j hj)) hk]

theorem alFB_unfold (h : Nat) (r : Nat → Bool) (k : Nat) (hk : k ≤ h) :
    alFB h r k = (r k && (if k + 1 ≤ h then alFB h r (k+1) else true)) := by
  rw [alFB_dual, alFB_dual, evFB_unfold h _ k hk]
  split <;> simp only [Bool.not_or, Bool.not_not, Bool.not_false]

theorem alFB_congr {h : Nat} {r r' : Nat → Bool} {k : Nat} (hr : ∀ j, j ≤ h → r j = r' j) :
    alFB h r k = alFB h r' k := by
  rw [alFB_dual, alFB_dual, evFB_congr (fun j hj => congrArg not (hr j hj))]

theorem alPB_rev {h : Nat} {r r' : Nat → Bool} (hr : Rev h r r') : Rev h (alPB r) (alFB h r') := by
  intro k hk
  rw [alPB_dual, alFB_dual, evPB_rev hr.not k hk]

/-- `>* (~ &final | p)` at `k ≤ h` is `p` at `h` -/
theorem alFB_final (h : Nat) (p : Nat → Bool) (k : Nat) (hk : k ≤ h) :
    alFB h (fun j => !(j == h) || p j) k = p h :=
  allBetween_guard hk (Nat.le_refl h) p

/-- `<* (~ &initial | p)` is `p` at `0` -/
theorem alPB_initial (p : Nat → Bool) (k : Nat) : alPB (fun j => !(j == 0) || p j) k = p 0 := by
  rw [alPB, allUpTo_eq_allBetween]
  exact allBetween_guard (Nat.le_refl 0) (Nat.zero_le k) p

end TelProofs
