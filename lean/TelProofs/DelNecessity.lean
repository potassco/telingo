/-
Necessity of the normal form in `del_unique` (C05): outside the documented normal form — an iteration
over a path that consumes no step — the one-step equations that `translate_KleeneStarPath` writes do
not determine the value of the formula.  `<(a?)*> b` at horizon 1 on the trace `{a},{}`: the equation
of the formula at state 0 reduces to `F ↔ (b ∨ (a ∧ F))`, i.e. `F ↔ F`; the LDL_f value is false, and
the valuation below, which makes it true, solves every equation as well.
-/
import TelProofs.Tseitin

namespace TelProofs.DelNecessity
open TelSpec TelModel

def a : BForm := .atom "a" [] true
def b : BForm := .atom "b" [] true
def P : Path := .star (.check (.atom "a" [] true))
/-- `<(a?)*> b` -/
def F : BForm := .dia P b
def D : BForm := .dia (.check (.atom "a" [] true)) F
def A : BForm := .bin "&" a F
def O : BForm := .bin "|" b D
def I : BForm := .bin "->" finalForm b
def N : BForm := .bin "&" I O

def tr : Trace := fun k x => k == 0 && x == "a"

/-- the pairs that the equation of `(F, 0)` leads to -/
inductive S : BForm → Nat → Prop
  | F : S F 0
  | N : S N 0
  | I : S I 0
  | O : S O 0
  | final : S finalForm 0
  | next : S (.next (.const true) 1 false) 0
  | true : S (.const true) 1
  | b : S b 0
  | D : S D 0
  | A : S A 0
  | a : S a 0

def bad : BForm → Bool
  | .dia _ _ => true
  | .bin op _ _ => op == "&" || op == "|"
  | _ => false

/-- the second solution: the formula and the nodes of its unfolding are true at state 0 -/
def v (f : BForm) (k : Nat) : Bool := bad f || f.sem 1 tr (fun _ => false) k

theorem not_normal : isDel F = false := by decide

theorem second_solution : Sys 1 tr (fun _ => false) v S := by
  refine ⟨fun f k hS => ?_, fun f k hS => ?_, fun f k hS => ?_⟩
  · cases hS <;> decide
  · cases hS with
    | F => exact forall_refs_ref .N
    | N => exact forall_refs_binExpr (forall_refs_ref .I) (forall_refs_ref .O)
    | I => exact forall_refs_binExpr (forall_refs_ref .final) (forall_refs_ref .b)
    | O => exact forall_refs_binExpr (forall_refs_ref .b) (forall_refs_ref .D)
    | final => exact forall_refs_ref .next
    | next => exact forall_refs_ref .true
    | D => exact forall_refs_ref .A
    | A => exact forall_refs_binExpr (forall_refs_ref .a) (forall_refs_ref .F)
    | true | b | a => exact fun _ hp => nomatch hp
  · cases hS <;> decide

theorem normal_form_necessary :
    ∃ (f : BForm) (h : Nat) (t : Trace) (lv : Int → Bool) (w : BForm → Nat → Bool) (T : BForm → Nat → Prop),
      Sys h t lv w T ∧ T f 0 ∧ w f 0 ≠ f.sem h t lv 0 :=
  ⟨F, 1, tr, fun _ => false, v, S, second_solution, .F, by decide⟩

end TelProofs.DelNecessity
