/-
The value of a formula depends on the two interpretations only at the atoms of the formula (`SForm.names`) and at the
positions `0..h` (`tht_congr_on`).  `tht` at a binary connective is one function of the values of the operands in the
two worlds (`tht_bin`); at an inductive temporal operator it is by definition the operator of `Quant` on
Boolean sequences, applied to the value sequences of the operands, so the congruence lemmas of `Quant` apply to goals
about `tht` as they stand.
-/
import TelProofs.Quant

namespace TelProofs
open TelSpec

def SForm.names : SForm → List String
  | .atom a => [a]
  | .kw _ => []
  | .neg f => SForm.names f
  | .bin _ l r => SForm.names l ++ SForm.names r
  | .prev _ _ f => SForm.names f
  | .next _ _ f => SForm.names f
  | .since l r => SForm.names l ++ SForm.names r
  | .trigger l r => SForm.names l ++ SForm.names r
  | .evP r => SForm.names r
  | .alP r => SForm.names r
  | .unt l r => SForm.names l ++ SForm.names r
  | .rel l r => SForm.names l ++ SForm.names r
  | .evF r => SForm.names r
  | .alF r => SForm.names r
  | .initially f => SForm.names f
  | .finally_ f => SForm.names f
  | .seqPrev _ l r => SForm.names l ++ SForm.names r
  | .seqNext _ l r => SForm.names l ++ SForm.names r

/-- a binary connective from the values of its operands here (`a`, `b`) and there (`a'`, `b'`) -/
def binHT : BinOp → Bool → Bool → Bool → Bool → Bool
  | .and, a, b, _, _ => a && b
  | .or, a, b, _, _ => a || b
  | .rimp, a, b, a', b' => (!a || b) && (!a' || b')
  | .limp, a, b, a', b' => (!b || a) && (!b' || a')
  | .equiv, a, b, a', b' => ((!a || b) && (!a' || b')) && ((!b || a) && (!b' || a'))

theorem tht_bin (h : Nat) (W T : Trace) (op : BinOp) (l r : SForm) (k : Nat) :
    tht h W T (.bin op l r) k = binHT op (tht h W T l k) (tht h W T r k) (tht h T T l k) (tht h T T r k) := by
  cases op <;> rfl

/- `tht` at the four future operators, as equations for rewriting; they hold by definition, which is why the proofs here
and in `Laws` apply the lemmas of `Quant` to goals about `tht` without them. -/
theorem tht_unt (h : Nat) (W T : Trace) (l r : SForm) (k : Nat) :
    tht h W T (.unt l r) k = untilB h (tht h W T l) (tht h W T r) k := rfl

theorem tht_rel (h : Nat) (W T : Trace) (l r : SForm) (k : Nat) :
    tht h W T (.rel l r) k = releaseB h (tht h W T l) (tht h W T r) k := rfl

theorem tht_evF (h : Nat) (W T : Trace) (r : SForm) (k : Nat) : tht h W T (.evF r) k = evFB h (tht h W T r) k := rfl

theorem tht_alF (h : Nat) (W T : Trace) (r : SForm) (k : Nat) : tht h W T (.alF r) k = alFB h (tht h W T r) k := rfl

def AgreeOn (atoms : List String) (h : Nat) (W W' : Trace) : Prop := ∀ k, k ≤ h → ∀ a ∈ atoms, W k a = W' k a

theorem tht_congr_on (atoms : List String) (h : Nat) (f : SForm) (hn : ∀ a ∈ SForm.names f, a ∈ atoms) :
    ∀ (W W' T T' : Trace), AgreeOn atoms h W W' → AgreeOn atoms h T T' → ∀ k, k ≤ h → tht h W T f k = tht h W' T' f k := by
  intro W W' T T' hW hT
  -- the "there" pair `T`, `T'` stays; the "here" pair is `W`, `W'` or, below a negation or an implication, `T`, `T'`
  induction f generalizing W W' with
  | atom a => exact fun k hk => hW k hk a (hn a (List.mem_singleton_self a))
  | kw w =>
    intro k _
    cases w <;> rfl
  | neg f ih => exact fun k hk => congrArg not (ih hn T T' hT k hk)
  | bin op l r ihl ihr =>
    obtain ⟨hl, hr⟩ := List.forall_mem_append.mp hn
    intro k hk
    rw [tht_bin, tht_bin, ihl hl W W' hW k hk, ihr hr W W' hW k hk, ihl hl T T' hT k hk, ihr hr T T' hT k hk]
  | prev n w f ih =>
    exact fun k hk => ite_congr rfl (fun _ => ih hn W W' hW (k - n) (Nat.le_trans (Nat.sub_le k n) hk)) fun _ => rfl
  | next n w f ih => exact fun k _ => ite_congr rfl (ih hn W W' hW (k + n)) fun _ => rfl
  | since l r ihl ihr =>
    obtain ⟨hl, hr⟩ := List.forall_mem_append.mp hn
    exact fun k => sinceB_congr (ihl hl W W' hW) (ihr hr W W' hW)
  | trigger l r ihl ihr =>
    obtain ⟨hl, hr⟩ := List.forall_mem_append.mp hn
    exact fun k => triggerB_congr (ihl hl W W' hW) (ihr hr W W' hW)
  | evP r ih => exact fun k => evPB_congr (ih hn W W' hW)
  | alP r ih => exact fun k => alPB_congr (ih hn W W' hW)
  | unt l r ihl ihr =>
    obtain ⟨hl, hr⟩ := List.forall_mem_append.mp hn
    exact fun k _ => untilB_congr (ihl hl W W' hW) (ihr hr W W' hW)
  | rel l r ihl ihr =>
    obtain ⟨hl, hr⟩ := List.forall_mem_append.mp hn
    exact fun k _ => releaseB_congr (ihl hl W W' hW) (ihr hr W W' hW)
  | evF r ih => exact fun k _ => evFB_congr (ih hn W W' hW)
  | alF r ih => exact fun k _ => alFB_congr (ih hn W W' hW)
  | initially f ih => exact fun k _ => ih hn W W' hW 0 (Nat.zero_le _)
  | finally_ f ih => exact fun k _ => ih hn W W' hW h (Nat.le_refl _)
  | seqPrev w l r ihl ihr =>
    obtain ⟨hl, hr⟩ := List.forall_mem_append.mp hn
    intro k hk
    simp only [tht, ihr hr W W' hW k hk]
    split
    · rw [ihl hl W W' hW (k - 1) (Nat.le_trans (Nat.sub_le k 1) hk)]
    · rfl
  | seqNext w l r ihl ihr =>
    obtain ⟨hl, hr⟩ := List.forall_mem_append.mp hn
    intro k hk
    simp only [tht, ihl hl W W' hW k hk]
    split
    · rename_i hle
      rw [ihr hr W W' hW (k + 1) hle]
    · rfl

end TelProofs
