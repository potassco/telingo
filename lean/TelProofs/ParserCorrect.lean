/-
C07: the stack machine of `TheoryParser` (shunting-yard) and the documented precedence-climbing reader agree on
every well-formed element list, for every operator table whose binary operators all have an associativity and every
documented table that holds its operators (`Documents`).  `reader_machine` is the simulation (the frames are the reader's
call stack), `stackParse_eq_docRead` its instance at the outermost level.
-/
import TelProofs.ParserShape

namespace TelProofs
open TelSpec TelModel TelModel.Generated

theorem tableFind_some {tbl : List OpEntry} {s : String} {u : Bool} {e : OpEntry} (h : tableFind tbl s u = some e) :
    e ∈ tbl ∧ e.op = s ∧ e.unary = u :=
  ⟨List.mem_of_find?_eq_some h, by simpa using List.find?_some h⟩

/-- `doc` documents `tbl`: every operator of the table is found in `doc` with the same priority and associativity.  The order
    of the entries does not enter, and `doc` may hold further operators. -/
def Documents (doc : List DocOp) (tbl : List OpEntry) : Prop :=
  ∀ s u e, tableFind tbl s u = some e → DocOp.find doc s u = some (OpEntry.toDoc e)

/-- the test in `readExpr.climb` -/
def yields (q : Option Nat) (e : DocOp) : Bool :=
  match q with
  | none => true
  | some qp => decide (qp < e.prio) || (qp == e.prio && e.left == some false)

/-- the priority of the left neighbour of the expression being read when the pending frames are `fs` -/
def ctx (tbl : List OpEntry) : List Frame → Option Nat
  | [] => none
  | f :: _ => (f.entry tbl).map (·.prio)

/-- with `p`, `q` the priorities of the operator on the stack and of the incoming one, and `l` the associativity of the latter:
    `p > q ∨ (p = q ∧ l)` is the negation of `p < q ∨ (p = q ∧ ¬l)` -/
theorem reduces_eq_not_yields {tbl : List OpEntry} {e : OpEntry} (hl : e.left.isSome) {f : Frame} (fs : List Frame)
    (hf : (f.entry tbl).isSome) : reduces tbl e f = !yields (ctx tbl (f :: fs)) (OpEntry.toDoc e) := by
  obtain ⟨pe, hpe⟩ := Option.isSome_iff_exists.mp hf
  obtain ⟨l, hl⟩ := Option.isSome_iff_exists.mp hl
  simp only [reduces, ctx, yields, hpe, OpEntry.toDoc, hl, Option.map_some]
  rcases Nat.lt_trichotomy pe.prio e.prio with h | h | h
  · rw [decide_eq_true h, decide_eq_false (Nat.lt_asymm h), beq_false_of_ne (Nat.ne_of_lt h)]
    rfl
  · rw [h, decide_eq_false (Nat.lt_irrefl _), BEq.rfl]
    cases l <;> rfl
  · rw [decide_eq_true h, decide_eq_false (Nat.lt_asymm h), beq_false_of_ne (Nat.ne_of_gt h)]
    rfl

theorem unwind_yields {tbl : List OpEntry} {e : OpEntry} (hl : e.left.isSome) {fs : List Frame} (hk : inTable tbl fs)
    (hy : yields (ctx tbl fs) (OpEntry.toDoc e) = true) (t : PTree) : unwind (reduces tbl e) t fs = (t, fs) := by
  cases fs with
  | nil => rfl
  | cons f fs => simp only [unwind, reduces_eq_not_yields hl fs (hk f List.mem_cons_self), hy, Bool.not_true, Bool.false_eq_true, if_false]

section
variable {doc : List DocOp} {tbl : List OpEntry} (hdoc : Documents doc tbl) {fuel : Nat} {q : Option Nat}

theorem readExpr_leaf (i : Nat) (rest : List PTok) :
    readExpr doc (fuel + 1) q (.leaf i :: rest) = readExpr.climb doc fuel q (.leaf i) rest := by
  simp only [readExpr]

include hdoc in
theorem readExpr_op {s : String} {e : OpEntry} (h : tableFind tbl s true = some e) (rest : List PTok) :
    readExpr doc (fuel + 1) q (.op s :: rest) =
      (readExpr doc fuel (some e.prio) rest).bind fun (a, rest') =>
        readExpr.climb doc fuel q (.un s a) rest' := by
  simp only [readExpr, hdoc s true e h, show (OpEntry.toDoc e).prio = e.prio from rfl]
  cases readExpr doc fuel (some e.prio) rest <;> rfl

theorem climb_nil (lhs : PTree) : readExpr.climb doc fuel q lhs [] = some (lhs, []) := by
  cases fuel <;> rfl

include hdoc in
theorem climb_op {s : String} {e : OpEntry} (h : tableFind tbl s false = some e) (lhs : PTree) (rest : List PTok) :
    readExpr.climb doc (fuel + 1) q lhs (.op s :: rest) =
      if yields q (OpEntry.toDoc e) then
        (readExpr doc fuel (some e.prio) rest).bind fun (rhs, rest') =>
          readExpr.climb doc fuel q (.bin s lhs rhs) rest'
      else some (lhs, .op s :: rest) := by
  simp only [readExpr.climb, hdoc s false e h, show (OpEntry.toDoc e).prio = e.prio from rfl]
  cases q <;> cases readExpr doc fuel (some e.prio) rest <;> rfl

end

/-- an element after the first: it starts with a binary operator of the table, followed by unary ones (the first element has
    unary operators only; `elemsOK` of `ParserShape` asks less: that the operator string of a later element is not empty) -/
def later (tbl : List OpEntry) (e : UElem) : Prop :=
  ∃ b us, e.ops = b :: us ∧ (tableFind tbl b false).isSome ∧ ∀ u ∈ us, (tableFind tbl u true).isSome

theorem toToks_cons (e : UElem) (es : List UElem) : toToks (e :: es) = e.ops.map .op ++ .leaf e.term :: toToks es := by
  simp [toToks]

theorem toToks_suffix {es' es : List UElem} (h : es' <:+ es) : (toToks es').length ≤ (toToks es).length := by
  obtain ⟨pre, rfl⟩ := h
  simp [toToks]

/-- a reader whose left neighbour has priority `q` stops in front of `es` -/
def stops (tbl : List OpEntry) (q : Option Nat) : List UElem → Prop
  | [] => True
  | e :: _ => ∃ b us eb, e.ops = b :: us ∧ tableFind tbl b false = some eb ∧ yields q (OpEntry.toDoc eb) = false

theorem parseFrom_close {tbl : List OpEntry} (htbl : ∀ b eb, tableFind tbl b false = some eb → eb.left.isSome) {es : List UElem}
    (t : PTree) {f : Frame} {fs : List Frame} (hk : inTable tbl (f :: fs)) (hst : stops tbl (ctx tbl (f :: fs)) es) :
    parseFrom tbl es (stk t (f :: fs)) = parseFrom tbl es (stk (f.close t) fs) := by
  cases es with
  | nil =>
    rw [parseFrom_nil, parseFrom_nil]
    rfl
  | cons e es =>
    obtain ⟨b, us, eb, hops, heb, hy⟩ := hst
    have hred : reduces tbl eb f = true := by
      rw [reduces_eq_not_yields (htbl b eb heb) fs (hk f List.mem_cons_self), hy]
      rfl
    rw [parseFrom_cons hops es t hk, parseFrom_cons hops es _ (fun g hg => hk g (List.mem_cons_of_mem _ hg))]
    simp only [heb, unwind, hred, if_true]

/-- A call of the reader, entered with pending frames `fs` while the machine runs from the stack `X` on `es`, returns `r`: a
    tree `t` and the tokens of a rest `es'` of `es` at which it stops, the machine then being at `t` on `fs` in front of `es'`. -/
def Returns (tbl : List OpEntry) (fs : List Frame) (es : List UElem) (X : List StackItem) (r : Option (PTree × List PTok)) : Prop :=
  ∃ t es', es' <:+ es ∧ r = some (t, toToks es') ∧ stops tbl (ctx tbl fs) es' ∧ parseFrom tbl es X = parseFrom tbl es' (stk t fs)

theorem Returns.mono {tbl : List OpEntry} {fs : List Frame} {es es' : List UElem} {X Y : List StackItem} {r : Option (PTree × List PTok)}
    (h : Returns tbl fs es' Y r) (hsuf : es' <:+ es) (hrun : parseFrom tbl es X = parseFrom tbl es' Y) : Returns tbl fs es X r := by
  obtain ⟨t, es'', hs, hr, hst, hrun'⟩ := h
  exact ⟨t, es'', hs.trans hsuf, hr, hst, hrun.trans hrun'⟩

/-- **Shunting-yard is precedence climbing.**  The frames on the machine's stack are the call stack of the reader:
    `.un u` is a `readExpr` that has seen the prefix operator `u` and waits for its operand, `.bin b lhs` a `climb` that
    has absorbed `b` and waits for the right operand; the innermost call has as left neighbour the operator of the
    topmost frame.  When a call returns, the machine has not yet closed its frame, but the next thing it does is to
    close it (`parseFrom_close`), because the operator that made the reader stop makes `__check` say "reduce".
    The machine takes a whole element in one step, the reader token by token: a `readExpr` that still has the prefix operators
    `us` and the operand `i` of the current element before it is matched with the machine *after* that element
    (`stk (.leaf i) (pushUn us fs)`), a `climb` with the machine between two elements.  Fuel: every call consumes a token
    before it calls on, so the number of tokens left suffices (`docRead` supplies more than twice as much). -/
theorem reader_machine {doc : List DocOp} {tbl : List OpEntry} (hdoc : Documents doc tbl) (htbl : ∀ b eb, tableFind tbl b false = some eb → eb.left.isSome) :
    ∀ (fuel : Nat) (fs : List Frame) (es : List UElem), inTable tbl fs → (∀ e ∈ es, later tbl e) →
      (∀ us i, (∀ u ∈ us, (tableFind tbl u true).isSome) → us.length + 1 + (toToks es).length ≤ fuel →
        Returns tbl fs es (stk (.leaf i) (pushUn us fs))
          (readExpr doc fuel (ctx tbl fs) (us.map .op ++ .leaf i :: toToks es))) ∧
      (∀ lhs, (toToks es).length ≤ fuel →
        Returns tbl fs es (stk lhs fs) (readExpr.climb doc fuel (ctx tbl fs) lhs (toToks es))) := by
  intro fuel
  induction fuel with
  | zero =>
    intro fs es _ hes
    refine ⟨fun us i _ h => by omega, fun lhs h => ?_⟩
    cases es with
    | nil => exact ⟨lhs, [], List.suffix_refl _, rfl, trivial, rfl⟩
    | cons e es => simp [toToks_cons] at h
  | succ n ih =>
    -- a frame `g` is opened, a `readExpr` reads its operand, the frame is closed, a `climb` goes on with the result
    have frame (g : Frame) (eg : OpEntry) (hg : g.entry tbl = some eg) (fs : List Frame) (es : List UElem) (us : List String) (i : Nat)
        (hk : inTable tbl fs) (hes : ∀ e ∈ es, later tbl e) (hus : ∀ u ∈ us, (tableFind tbl u true).isSome)
        (hfuel : us.length + 1 + (toToks es).length ≤ n) :
        Returns tbl fs es (stk (.leaf i) (pushUn us (g :: fs)))
          ((readExpr doc n (some eg.prio) (us.map .op ++ .leaf i :: toToks es)).bind fun (a, rest) =>
            readExpr.climb doc n (ctx tbl fs) (g.close a) rest) := by
      have hk' : inTable tbl (g :: fs) := List.forall_mem_cons.mpr ⟨Option.isSome_iff_exists.mpr ⟨eg, hg⟩, hk⟩
      obtain ⟨a, es1, hsuf, hr, hst, hrun⟩ := (ih (g :: fs) es hk' hes).1 us i hus hfuel
      have hlen : (toToks es1).length ≤ n := Nat.le_trans (toToks_suffix hsuf) (Nat.le_trans (Nat.le_add_left _ _) hfuel)
      simp only [ctx, hg, Option.map_some] at hr
      rw [hr]
      exact ((ih fs es1 hk (fun x hx => hes x (hsuf.subset hx))).2 (g.close a) hlen).mono hsuf
        (hrun.trans (parseFrom_close htbl a hk' hst))
    intro fs es hk hes
    constructor
    · intro us i hus hfuel
      cases us with
      | nil =>
        rw [List.map_nil, List.nil_append, readExpr_leaf]
        exact (ih fs es hk hes).2 (.leaf i) (by omega)
      | cons u us =>
        obtain ⟨hu, hus⟩ := List.forall_mem_cons.mp hus
        obtain ⟨eu, heu⟩ := Option.isSome_iff_exists.mp hu
        rw [List.map_cons, List.cons_append, readExpr_op hdoc heu]
        rw [List.length_cons] at hfuel
        exact frame (.un u) eu heu fs es us i hk hes hus (by omega)
    · intro lhs hfuel
      cases es with
      | nil => exact ⟨lhs, [], List.suffix_refl _, climb_nil _, trivial, rfl⟩
      | cons e es =>
        obtain ⟨⟨b, us, hops, hb, hus⟩, hes⟩ := List.forall_mem_cons.mp hes
        obtain ⟨eb, heb⟩ := Option.isSome_iff_exists.mp hb
        rw [toToks_cons, hops, List.map_cons, List.cons_append] at hfuel ⊢
        rw [List.length_cons, List.length_append, List.length_map, List.length_cons] at hfuel
        rw [climb_op hdoc heb]
        split
        · -- the left neighbour yields to `b`: the machine closes no frame and opens the frame of `b`
          rename_i hy
          refine (frame (.bin b lhs) eb heb fs es us e.term hk hes hus (by omega)).mono (List.suffix_cons e es) ?_
          rw [parseFrom_cons hops es lhs hk]
          simp only [heb, unwind_yields (htbl b eb heb) hk hy, if_pos hus]
        · rename_i hy
          have htoks : toToks (e :: es) = .op b :: (us.map .op ++ .leaf e.term :: toToks es) := by
            rw [toToks_cons, hops]
            rfl
          exact ⟨lhs, e :: es, List.suffix_refl _, htoks ▸ rfl, ⟨b, us, eb, hops, heb, Bool.eq_false_iff.2 hy⟩, rfl⟩

/-- C07, for every table, every documented table that holds its operators and every well-formed operator string -/
theorem stackParse_eq_docRead {doc : List DocOp} {tbl : List OpEntry} (hdoc : Documents doc tbl)
    (htbl : ∀ e ∈ tbl, e.unary = false → e.left.isSome) (e : UElem) (es : List UElem)
    (he : ∀ u ∈ e.ops, (tableFind tbl u true).isSome) (hes : ∀ e' ∈ es, later tbl e') :
    ∃ t, stackParse tbl (e :: es) = .ok t ∧ docRead doc (toToks (e :: es)) = some t := by
  have htbl' : ∀ b eb, tableFind tbl b false = some eb → eb.left.isSome := fun b eb h =>
    htbl eb (tableFind_some h).1 (tableFind_some h).2.2
  have hfuel : e.ops.length + 1 + (toToks es).length ≤ 2 * (toToks (e :: es)).length + 2 := by
    rw [toToks_cons, List.length_append, List.length_map, List.length_cons]
    omega
  obtain ⟨t, es', _, hr, hst, hrun⟩ := (reader_machine hdoc htbl' (2 * (toToks (e :: es)).length + 2) [] es (fun _ h => nomatch h) hes).1
    e.ops e.term he hfuel
  cases es' with
  | cons _ _ =>
    -- `yields none _ = true`: at the outermost level the reader stops only at the end
    obtain ⟨_, _, _, _, _, hy⟩ := hst
    cases hy
  | nil =>
    refine ⟨t, ?_, ?_⟩
    · rw [stackParse_cons, if_pos he, hrun, parseFrom_nil]
      rfl
    · rw [← toToks_cons] at hr
      rw [docRead, show (none : Option Nat) = ctx tbl [] from rfl, hr]
      rfl

end TelProofs
