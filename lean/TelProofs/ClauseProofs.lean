/-
The clauses telingo writes for a Boolean connective, a temporal induction step or an equivalence hold exactly when
the literal of the formula has the value the one-step equation (`binExpr`, `telStep` of `eqn`) gives it.
-/
import TelModel.Clauses

namespace TelProofs
open TelModel

/-- the atom of a literal, as `litTrue` (and `clauseRule`) take it from a positive and from a negative one -/
theorem toNat_of_pos {l : Int} (h : l > 0) : l.toNat = l.natAbs := by omega

theorem toNat_neg_of_not_pos {l : Int} (h : ¬ l > 0) : (-l).toNat = l.natAbs := by omega

theorem litTrue_neg (v : Nat → Bool) (l : Int) (hl : l ≠ 0) : litTrue v (-l) = !(litTrue v l) := by
  unfold litTrue
  by_cases h : l > 0
  · have h' : ¬ (-l > 0) := by omega
    rw [if_neg h', if_pos h, Int.neg_neg]
  · have h' : -l > 0 := by omega
    rw [if_pos h', if_neg h, Bool.not_not]

theorem litTrue_nat (v : Nat → Bool) (n : Nat) (hn : 0 < n) : litTrue v (n : Int) = v n := by
  unfold litTrue
  rw [if_pos (Int.natCast_pos.mpr hn), Int.toNat_natCast]

theorem litTrue_congr (v v' : Nat → Bool) (l : Int) (h : v l.natAbs = v' l.natAbs) : litTrue v l = litTrue v' l := by
  unfold litTrue
  by_cases hl : l > 0
  · rw [if_pos hl, if_pos hl, toNat_of_pos hl, h]
  · rw [if_neg hl, if_neg hl, toNat_neg_of_not_pos hl, h]

theorem makeEqual_ok (v : Nat → Bool) (a b : Int) (ha : a ≠ 0) (hb : b ≠ 0) :
    clausesOk v (makeEqual a b) = (litTrue v a == litTrue v b) := by
  simp only [clausesOk, makeEqual, List.all_cons, List.all_nil, Clause.ok, litTrue_neg v a ha, litTrue_neg v b hb, Bool.and_true]
  generalize litTrue v a = x, litTrue v b = y
  revert x y
  decide

theorem makeDisjunction_ok (v : Nat → Bool) (e a b : Int) (he : e ≠ 0) (ha : a ≠ 0) (hb : b ≠ 0) :
    clausesOk v (makeDisjunction e a b) = (litTrue v e == (litTrue v a || litTrue v b)) := by
  simp only [clausesOk, makeDisjunction, List.all_cons, List.all_nil, Clause.ok, litTrue_neg v a ha, litTrue_neg v b hb,
    litTrue_neg v e he, Bool.and_true]
  generalize litTrue v e = x, litTrue v a = y, litTrue v b = z
  revert x y z
  decide

/-- value of a Boolean connective: the same cascade over the operator string as `binSem` (BodySem), under the name the
    clause level uses; `C03.clause_values_are_equations` passes from one to the other by unfolding -/
def boolVal (op : String) (a b : Bool) : Bool :=
  if op == "&" then a && b
  else if op == "|" then a || b
  else if op == "<-" then a || !b
  else if op == "->" then !a || b
  else if op == "<>" then a == b
  else false

theorem boolClauses_ok (v : Nat → Bool) (op : String) (lit lhs rhs : Int) (h0 : lit ≠ 0) (h1 : lhs ≠ 0) (h2 : rhs ≠ 0)
    (hop : op = "&" ∨ op = "|" ∨ op = "<-" ∨ op = "->" ∨ op = "<>") :
    clausesOk v (boolClauses op lit lhs rhs) = (litTrue v lit == boolVal op (litTrue v lhs) (litTrue v rhs)) := by
  have n0 := Int.neg_ne_zero.mpr h0
  have n1 := Int.neg_ne_zero.mpr h1
  have n2 := Int.neg_ne_zero.mpr h2
  rcases hop with rfl | rfl | rfl | rfl | rfl
  · show clausesOk v (makeDisjunction (-lit) (-lhs) (-rhs)) = (litTrue v lit == (litTrue v lhs && litTrue v rhs))
    rw [makeDisjunction_ok v (-lit) (-lhs) (-rhs) n0 n1 n2, litTrue_neg v lit h0, litTrue_neg v lhs h1, litTrue_neg v rhs h2]
    generalize litTrue v lit = a, litTrue v lhs = b, litTrue v rhs = c
    revert a b c
    decide
  · show clausesOk v (makeDisjunction lit lhs rhs) = (litTrue v lit == (litTrue v lhs || litTrue v rhs))
    exact makeDisjunction_ok v lit lhs rhs h0 h1 h2
  · show clausesOk v (makeDisjunction lit lhs (-rhs)) = (litTrue v lit == (litTrue v lhs || !litTrue v rhs))
    rw [makeDisjunction_ok v lit lhs (-rhs) h0 h1 n2, litTrue_neg v rhs h2]
  · show clausesOk v (makeDisjunction lit (-lhs) rhs) = (litTrue v lit == (!litTrue v lhs || litTrue v rhs))
    rw [makeDisjunction_ok v lit (-lhs) rhs h0 n1 h2, litTrue_neg v lhs h1]
  · show clausesOk v [[-lit, rhs, lhs], [-lit, -rhs, -lhs], [lit, rhs, -lhs], [lit, -rhs, lhs]] =
      (litTrue v lit == (litTrue v lhs == litTrue v rhs))
    simp only [clausesOk, List.all_cons, List.all_nil, Clause.ok, litTrue_neg v lit h0, litTrue_neg v lhs h1,
      litTrue_neg v rhs h2, Bool.and_true]
    generalize litTrue v lit = a, litTrue v lhs = b, litTrue v rhs = c
    revert a b c
    decide

/-- value of one induction step of since/trigger/until/release and their unary forms (as in `telStep`) -/
def telVal (dual : Bool) (lhs : Option Bool) (rhs pre : Bool) : Bool :=
  match dual, lhs with
  | false, some l => rhs || (l && pre)
  | false, none => rhs || pre
  | true, some l => rhs && (l || pre)
  | true, none => rhs && pre

theorem telClauses_ok (v : Nat → Bool) (dual : Bool) (lit : Int) (lhs : Option Int) (rhs pre : Int)
    (h0 : lit ≠ 0) (h1 : ∀ l, lhs = some l → l ≠ 0) (h2 : rhs ≠ 0) (h3 : pre ≠ 0) :
    clausesOk v (telClauses dual lit lhs rhs pre) =
      (litTrue v lit == telVal dual (lhs.map (litTrue v)) (litTrue v rhs) (litTrue v pre)) := by
  cases dual <;> cases lhs with
  | none =>
    simp only [telClauses, clausesOk, Bool.false_eq_true, if_false, if_true, List.all_cons, List.all_nil, List.cons_append,
      List.nil_append, Clause.ok, telVal, Option.map_none, Int.neg_neg, litTrue_neg v lit h0, litTrue_neg v rhs h2,
      litTrue_neg v pre h3, Bool.and_true]
    generalize litTrue v lit = a, litTrue v rhs = r, litTrue v pre = p
    revert a r p
    decide
  | some l =>
    simp only [telClauses, clausesOk, Bool.false_eq_true, if_false, if_true, List.all_cons, List.all_nil, List.cons_append,
      List.nil_append, Clause.ok, telVal, Option.map_some, Int.neg_neg, litTrue_neg v lit h0, litTrue_neg v rhs h2,
      litTrue_neg v pre h3, litTrue_neg v l (h1 l rfl), Bool.and_true]
    generalize litTrue v lit = a, litTrue v rhs = r, litTrue v pre = p, litTrue v l = b
    revert a r p b
    decide

theorem telVal_telStep (dual : Bool) (l : Option BExpr) (r p : BExpr) (tr : TelSpec.Trace) (lv : Int → Bool) (val : BForm → Nat → Bool) :
    (telStep dual l r p).eval tr lv val = telVal dual (l.map fun e => e.eval tr lv val) (r.eval tr lv val) (p.eval tr lv val) := by
  cases dual <;> cases l <;> rfl

end TelProofs
