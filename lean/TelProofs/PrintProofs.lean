/-
`print_model` sorts the symbols of a state by clingo's order (C10): the sort is a permutation.
-/
import TelModel.Print

namespace TelProofs
open TelModel

theorem insertByRank_perm (x : ShownSym) (l : List ShownSym) : (insertByRank x l).Perm (x :: l) := by
  induction l with
  | nil => exact .refl _
  | cons z zs ih =>
    unfold insertByRank
    split
    · exact .refl _
    · exact (ih.cons z).trans (.swap x z zs)

theorem sortByRank_perm (l : List ShownSym) : (sortByRank l).Perm l := by
  induction l with
  | nil => exact .refl _
  | cons z zs ih => exact (insertByRank_perm z _).trans (ih.cons z)

end TelProofs
