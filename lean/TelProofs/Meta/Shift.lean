/-
Time-stratified shifting (DESIGN §5, M7).  If in every rule all positive body atoms lie at times ≤ the time of every
head atom, then replacing in every non-choice rule, per time point k, the head disjuncts that lie at
other times by their default negation in the body (`A ∨ X ← B`  ↦  `A ← B, not X`, i.e. `A ∨ ¬¬X ← B`)
preserves the stable models.  This is what `translate_clause` does with the `TelShift` literals of a
head-formula clause; it is the program-level half of C04, the formula-level half being `unshift_equiv`.
-/
import Mathlib.Data.Set.Defs

namespace TelProofs.Meta
variable {β : Type}

structure Rule (β : Type) where
  head : List β
  choice : Bool := false
  pos : List β := []
  neg : List β := []
  nneg : List β := []

def Rule.bodyHT (r : Rule β) (H T : Set β) : Prop :=
  (∀ a ∈ r.pos, a ∈ H) ∧ (∀ a ∈ r.neg, a ∉ T) ∧ (∀ a ∈ r.nneg, a ∈ T)

def Rule.headHT (r : Rule β) (H T : Set β) : Prop :=
  if r.choice then ∀ a ∈ r.head, a ∈ T → a ∈ H else ∃ a ∈ r.head, a ∈ H

def Rule.sat (r : Rule β) (H T : Set β) : Prop :=
  (r.bodyHT T T → r.headHT T T) ∧ (r.bodyHT H T → r.headHT H T)

def Sat (P : Set (Rule β)) (H T : Set β) : Prop := ∀ r ∈ P, r.sat H T

def Stable (P : Set (Rule β)) (T : Set β) : Prop :=
  Sat P T T ∧ ∀ H, H ⊆ T → Sat P H T → H = T

variable (time : β → Nat)

def Rule.shiftTo (r : Rule β) (k : Nat) : Rule β :=
  { r with head := r.head.filter (fun a => decide (time a = k)),
           neg := r.neg ++ r.head.filter (fun a => !decide (time a = k)) }

def Rule.stratified (r : Rule β) : Prop := ∀ b ∈ r.pos, ∀ a ∈ r.head, time b ≤ time a

def shiftProg (P : Set (Rule β)) : Set (Rule β) :=
  {r' | ∃ r ∈ P, (r.choice = true ∧ r' = r) ∨ (r.choice = false ∧ ∃ k, r' = r.shiftTo time k)}

theorem bodyHT_mono {r : Rule β} {H T : Set β} (h : H ⊆ T) (hb : r.bodyHT H T) : r.bodyHT T T :=
  ⟨fun a ha => h (hb.1 a ha), hb.2.1, hb.2.2⟩

theorem headHT_disj {r : Rule β} (hc : r.choice = false) (H T : Set β) : r.headHT H T ↔ ∃ a ∈ r.head, a ∈ H := by
  simp only [Rule.headHT, hc, Bool.false_eq_true, if_false]

theorem headHT_choice {r : Rule β} (hc : r.choice = true) (H T : Set β) :
    r.headHT H T ↔ ∀ a ∈ r.head, a ∈ T → a ∈ H := by
  simp only [Rule.headHT, hc, if_true]

variable {time}

theorem shiftTo_bodyHT (r : Rule β) (k : Nat) (H T : Set β) :
    (r.shiftTo time k).bodyHT H T ↔ r.bodyHT H T ∧ ∀ a ∈ r.head, time a ≠ k → a ∉ T := by
  simp only [Rule.bodyHT, Rule.shiftTo, List.mem_append, List.mem_filter, Bool.not_eq_true', decide_eq_false_iff_not,
    or_imp, forall_and, and_imp]
  exact ⟨fun ⟨hp, ⟨hn, ho⟩, hnn⟩ => ⟨⟨hp, hn, hnn⟩, ho⟩, fun ⟨⟨hp, hn, hnn⟩, ho⟩ => ⟨hp, ⟨hn, ho⟩, hnn⟩⟩

theorem shiftTo_headHT {r : Rule β} (hc : r.choice = false) (k : Nat) (H T : Set β) :
    (r.shiftTo time k).headHT H T ↔ ∃ a ∈ r.head, time a = k ∧ a ∈ H := by
  rw [headHT_disj (r := r.shiftTo time k) hc]
  simp only [Rule.shiftTo, List.mem_filter, decide_eq_true_eq, and_assoc]

theorem sat_shiftTo {r : Rule β} (hc : r.choice = false) {H T : Set β} (hHT : H ⊆ T) (k : Nat) (hs : r.sat H T) :
    (r.shiftTo time k).sat H T := by
  -- the head atom the rule gives lies in `T`, so not off `k` when the shifted body holds
  have key : ∀ X : Set β, X ⊆ T → (r.bodyHT X T → r.headHT X T) →
      (r.shiftTo time k).bodyHT X T → (r.shiftTo time k).headHT X T := by
    intro X hXT hX hb
    rw [shiftTo_bodyHT] at hb
    obtain ⟨a, ha, haX⟩ := (headHT_disj hc X T).mp (hX hb.1)
    exact (shiftTo_headHT hc k X T).mpr ⟨a, ha, Decidable.byContradiction fun hk => hb.2 a ha hk (hXT haX), haX⟩
  exact ⟨key T (fun _ h => h) hs.1, key H hHT hs.2⟩

theorem sat_of_shiftTo {r : Rule β} (hc : r.choice = false) {T : Set β} (k : Nat) (hs : (r.shiftTo time k).sat T T) :
    r.sat T T := by
  -- either some head atom holds anyway, or the shifted body holds with the body
  have key : r.bodyHT T T → r.headHT T T := by
    intro hb
    rw [headHT_disj hc]
    apply Classical.byContradiction
    intro hno
    obtain ⟨a, ha, _, haT⟩ := (shiftTo_headHT hc k T T).mp
      (hs.1 ((shiftTo_bodyHT r k T T).mpr ⟨hb, fun a ha _ haT => hno ⟨a, ha, haT⟩⟩))
    exact hno ⟨a, ha, haT⟩
  exact ⟨key, key⟩

variable (time)

theorem Sat.shiftProg {P : Set (Rule β)} {H T : Set β} (hHT : H ⊆ T) (hS : Sat P H T) : Sat (shiftProg time P) H T := by
  rintro _ ⟨r, hr, ⟨_, rfl⟩ | ⟨hc, k, rfl⟩⟩
  · exact hS _ hr
  · exact sat_shiftTo hc hHT k (hS r hr)

theorem shift_to_disj (P : Set (Rule β)) (T : Set β) (hT : Stable (shiftProg time P) T) :
    Stable P T := by
  refine ⟨fun r hr => ?_, fun H hHT hS => hT.2 H hHT (hS.shiftProg time hHT)⟩
  cases hc : r.choice
  · exact sat_of_shiftTo hc 0 (hT.1 _ ⟨r, hr, .inr ⟨hc, 0, rfl⟩⟩)
  · exact hT.1 r ⟨r, hr, .inl ⟨hc, rfl⟩⟩

theorem disj_to_shift (P : Set (Rule β)) (hstrat : ∀ r ∈ P, r.stratified time) (T : Set β)
    (hT : Stable P T) : Stable (shiftProg time P) T := by
  obtain ⟨hm, hmin⟩ := hT
  refine ⟨hm.shiftProg time fun _ h => h, fun H hHT hS => ?_⟩
  -- time by time, the atoms of `T` are in `H`
  suffices hall : ∀ n a, a ∈ T → time a = n → a ∈ H from
    Set.ext fun a => ⟨fun h => hHT h, fun h => hall _ a h rfl⟩
  intro n
  induction n using Nat.strongRecOn with
  | _ n ih =>
    -- `T` with its time `n` cut down to `H` is a model of the disjunctive program below `T`, so it is `T`
    let H' : Set β := {a | a ∈ T ∧ (time a = n → a ∈ H)}
    have hH'T : H' ⊆ T := fun a ha => ha.1
    suffices hS' : Sat P H' T by
      intro a haT han
      have : a ∈ H' := hmin H' hH'T hS' ▸ haT
      exact this.2 han
    intro r hr
    refine ⟨(hm r hr).1, fun hb => ?_⟩
    -- the positive body is in `H` as soon as some head atom has time `n`: it is not later, and earlier times are settled
    have hposH : ∀ a ∈ r.head, time a = n → ∀ b ∈ r.pos, b ∈ H := by
      intro a ha han b hbp
      have hle := hstrat r hr b hbp a ha
      have hbH' := hb.1 b hbp
      rcases Nat.lt_or_ge (time b) n with hlt | hge
      · exact ih _ hlt b hbH'.1 rfl
      · exact hbH'.2 (Nat.le_antisymm (han ▸ hle) hge)
    cases hc : r.choice
    · rw [headHT_disj hc]
      by_cases hoff : ∃ a ∈ r.head, a ∈ T ∧ time a ≠ n
      · obtain ⟨a, ha, haT, han⟩ := hoff
        exact ⟨a, ha, haT, fun h => absurd h han⟩
      · -- every head atom in `T` has time `n`: the rule shifted to `n` fires in `H`
        obtain ⟨a, ha, haT⟩ := (headHT_disj hc T T).mp ((hm r hr).1 (bodyHT_mono hH'T hb))
        have han : time a = n := Decidable.byContradiction fun h => hoff ⟨a, ha, haT, h⟩
        have hbs : (r.shiftTo time n).bodyHT H T :=
          (shiftTo_bodyHT r n H T).mpr ⟨⟨hposH a ha han, hb.2⟩, fun c hc hcn hcT => hoff ⟨c, hc, hcT, hcn⟩⟩
        obtain ⟨c, hc', _, hcH⟩ := (shiftTo_headHT hc n H T).mp ((hS _ ⟨r, hr, .inr ⟨hc, n, rfl⟩⟩).2 hbs)
        exact ⟨c, hc', hHT hcH, fun _ => hcH⟩
    · rw [headHT_choice hc]
      intro a ha haT
      exact ⟨haT, fun han =>
        (headHT_choice hc H T).mp ((hS r ⟨r, hr, .inl ⟨hc, rfl⟩⟩).2 ⟨hposH a ha han, hb.2⟩) a ha haT⟩

theorem shift_iff (P : Set (Rule β)) (hstrat : ∀ r ∈ P, r.stratified time) (T : Set β) :
    Stable (shiftProg time P) T ↔ Stable P T :=
  ⟨shift_to_disj time P T, disj_to_shift time P hstrat T⟩

end TelProofs.Meta
