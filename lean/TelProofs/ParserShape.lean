/-
`TheoryParser.parse` as a machine on frames.  Between two elements the parser stack is an operand on top of a list of
*frames*: a prefix operator waiting for its operand, or a binary operator with its left operand waiting for the right one.
`__reduce` closes the topmost frame; the `while __check` loop and the final loop close frames as long as a test on the topmost
one holds (`unwind`); an element after the first closes the frames that do not yield to its binary operator, opens the frame of
that operator with the tree so far as left operand, then one frame for each prefix operator.  `parseFrom_nil`, `parseFrom_cons`
and `stackParse_cons` say so; the rest of the parser development uses only them.  C15 for the parser follows
(`stackParse_noInternal`): no `__reduce` or `__check` ever fails, the result is a tree or the diagnostic "invalid operator".
-/
import TelModel.Parser
import TelProofs.PyLemmas

namespace TelProofs
open TelSpec TelModel TelModel.Generated

inductive Frame where
  | un (name : String)
  | bin (name : String) (lhs : PTree)

/-- the stack items of a list of frames, innermost first -/
def enc : List Frame → List StackItem
  | [] => []
  | .un n :: fs => .op n true :: enc fs
  | .bin n a :: fs => .op n false :: .term a :: enc fs

def stk (t : PTree) (fs : List Frame) : List StackItem := .term t :: enc fs

def Frame.close : Frame → PTree → PTree
  | .un n, t => .un n t
  | .bin n a, t => .bin n a t

def Frame.entry (tbl : List OpEntry) : Frame → Option OpEntry
  | .un n => tableFind tbl n true
  | .bin n _ => tableFind tbl n false

/-- so that `__check` finds every operator it looks up -/
def inTable (tbl : List OpEntry) (fs : List Frame) : Prop := ∀ f ∈ fs, (f.entry tbl).isSome

def unwind (red : Frame → Bool) : PTree → List Frame → PTree × List Frame
  | t, [] => (t, [])
  | t, f :: fs => if red f then unwind red (f.close t) fs else (t, f :: fs)

theorem inTable_unwind {tbl : List OpEntry} (red : Frame → Bool) : ∀ {fs : List Frame} (t : PTree), inTable tbl fs →
    inTable tbl (unwind red t fs).2
  | [], _, hk => hk
  | f :: fs, t, hk => by
    unfold unwind
    split
    · exact inTable_unwind red _ (List.forall_mem_cons.mp hk).2
    · exact hk

theorem preduce_stk (t : PTree) (f : Frame) (fs : List Frame) : preduce (stk t (f :: fs)) = .ok (stk (f.close t) fs) := by
  cases f <;> rfl

/-- the `__check` condition -/
def reduces (tbl : List OpEntry) (e : OpEntry) (f : Frame) : Bool :=
  match f.entry tbl with
  | some pe => decide (pe.prio > e.prio) || (pe.prio == e.prio && e.left == some true)
  | none => false

theorem pcheck_stk {tbl : List OpEntry} {op : String} {e : OpEntry} (he : tableFind tbl op false = some e) (t : PTree)
    {f : Frame} (fs : List Frame) (hf : (f.entry tbl).isSome) : pcheck tbl (stk t (f :: fs)) op = .ok (reduces tbl e f) := by
  obtain ⟨pe, hpe⟩ := Option.isSome_iff_exists.mp hf
  cases f
  all_goals
    simp only [Frame.entry] at hpe
    simp only [stk, enc, pcheck, reduces, Frame.entry, he, hpe]
    rfl

theorem reduceWhile_stk {tbl : List OpEntry} {op : String} {e : OpEntry} (he : tableFind tbl op false = some e) :
    ∀ (fs : List Frame) (t : PTree) (fuel : Nat), inTable tbl fs → fs.length < fuel →
      reduceWhile tbl op fuel (stk t fs) = .ok (Function.uncurry stk (unwind (reduces tbl e) t fs))
  | _, _, 0, _, hl => by omega
  | [], t, fuel+1, _, _ => rfl
  | f :: fs, t, fuel+1, hk, hl => by
    simp only [reduceWhile, pcheck_stk he t fs (List.forall_mem_cons.mp hk).1, ok_bind, unwind]
    split
    · simp only [preduce_stk, ok_bind]
      exact reduceWhile_stk he fs _ fuel (List.forall_mem_cons.mp hk).2 (Nat.lt_of_succ_lt_succ hl)
    · rfl

theorem length_le_enc : ∀ fs : List Frame, fs.length ≤ (enc fs).length
  | [] => Nat.le_refl _
  | .un _ :: fs => Nat.succ_le_succ (length_le_enc fs)
  | .bin _ _ :: fs => Nat.succ_le_succ (Nat.le_succ_of_le (length_le_enc fs))

/-- the stack is longer than its list of frames: fuel enough for the loops that close frames -/
theorem length_lt_stk (t : PTree) (fs : List Frame) : fs.length < (stk t fs).length + 1 :=
  Nat.lt_succ_of_le (Nat.le_succ_of_le (length_le_enc fs))

theorem reduceAll_stk : ∀ (fs : List Frame) (t : PTree) (fuel : Nat), fs.length < fuel →
    reduceAll fuel (stk t fs) = .ok [.term (unwind (fun _ => true) t fs).1]
  | _, _, 0, hl => by omega
  | [], t, fuel+1, _ => rfl
  | f :: fs, t, fuel+1, hl => by
    have h1 : (stk t (f :: fs)).length > 1 := by cases f <;> exact Nat.succ_lt_succ (Nat.zero_lt_succ _)
    simp only [reduceAll, h1, if_true, preduce_stk, ok_bind, unwind]
    exact reduceAll_stk fs _ fuel (Nat.lt_of_succ_lt_succ hl)

def pushUn : List String → List Frame → List Frame
  | [], fs => fs
  | u :: us, fs => pushUn us (.un u :: fs)

def invalidOp {α : Type} : Py α := .error (.runtime "invalid operator in temporal formula")

theorem pushOps_unary (tbl : List OpEntry) : ∀ (us : List String) (fs : List Frame),
    pushOps tbl us true (enc fs) = if ∀ u ∈ us, (tableFind tbl u true).isSome then .ok (enc (pushUn us fs)) else invalidOp
  | [], fs => by simp [pushOps, pushUn]
  | u :: us, fs => by
    cases h : tableFind tbl u true with
    | none => simp [pushOps, h, invalidOp]
    | some _ =>
      -- `u` is pushed, which opens the frame `.un u`
      simp [pushOps, pushUn, h]
      exact pushOps_unary tbl us (.un u :: fs)

theorem inTable_pushUn {tbl : List OpEntry} : ∀ {us : List String} {fs : List Frame}, inTable tbl fs →
    (∀ u ∈ us, (tableFind tbl u true).isSome) → inTable tbl (pushUn us fs)
  | [], _, hk, _ => hk
  | u :: us, fs, hk, hu =>
    have ⟨hu, hus⟩ := List.forall_mem_cons.mp hu
    inTable_pushUn (us := us) (fs := .un u :: fs) (List.forall_mem_cons.mpr ⟨hu, hk⟩) hus

/-- the machine from a stack on: the remaining elements, then the final loop -/
def parseFrom (tbl : List OpEntry) (es : List UElem) (stack : List StackItem) : Py (List StackItem) := do
  let s ← pushElems tbl es false stack
  reduceAll (s.length + 1) s

theorem parseFrom_nil (tbl : List OpEntry) (t : PTree) (fs : List Frame) :
    parseFrom tbl [] (stk t fs) = .ok [.term (unwind (fun _ => true) t fs).1] := by
  simp only [parseFrom, pushElems, py_pure, ok_bind]
  exact reduceAll_stk fs t _ (length_lt_stk t fs)

theorem parseFrom_cons {tbl : List OpEntry} {e : UElem} {b : String} {us : List String} (hops : e.ops = b :: us) (es : List UElem)
    (t : PTree) {fs : List Frame} (hk : inTable tbl fs) :
    parseFrom tbl (e :: es) (stk t fs) =
      match tableFind tbl b false with
      | some eb =>
        if ∀ u ∈ us, (tableFind tbl u true).isSome then
          let (t', fs') := unwind (reduces tbl eb) t fs
          parseFrom tbl es (stk (.leaf e.term) (pushUn us (.bin b t' :: fs')))
        else invalidOp
      | none => invalidOp := by
  cases h : tableFind tbl b false with
  | none => simp [parseFrom, pushElems, pushOps, hops, h, invalidOp]
  | some eb =>
    have hw := reduceWhile_stk h fs t ((stk t fs).length + 1) hk (length_lt_stk t fs)
    simp only [Function.uncurry, parseFrom, pushElems, pushOps, hops, h, hw, Option.isNone_some, Bool.false_eq_true, if_false, pure_bind, ok_bind, bind_assoc]
    rw [show StackItem.op b false :: stk _ _ = enc (.bin b _ :: _) from rfl, pushOps_unary]
    split
    · rfl
    · rfl

theorem stackParse_cons (tbl : List OpEntry) (e : UElem) (es : List UElem) :
    stackParse tbl (e :: es) =
      if ∀ u ∈ e.ops, (tableFind tbl u true).isSome then do
        let s ← parseFrom tbl es (stk (.leaf e.term) (pushUn e.ops []))
        match s with
        | [.term t] => pure t
        | _ => throw .indexError
      else invalidOp := by
  simp only [stackParse, pushElems, parseFrom, bind_assoc]
  rw [show ([] : List StackItem) = enc [] from rfl, pushOps_unary]
  split
  · rfl
  · rfl

/-- what clingo's grammar guarantees for an unparsed theory term: every element but the first starts with an operator -/
def elemsOK (unary : Bool) : List UElem → Prop
  | [] => True
  | e :: rest => (unary = true ∨ e.ops ≠ []) ∧ ∀ e' ∈ rest, e'.ops ≠ []

theorem parseFrom_cases (tbl : List OpEntry) : ∀ (es : List UElem) (t : PTree) (fs : List Frame), (∀ e ∈ es, e.ops ≠ []) → inTable tbl fs →
    parseFrom tbl es (stk t fs) = invalidOp ∨ ∃ t', parseFrom tbl es (stk t fs) = .ok [.term t']
  | [], t, fs, _, _ => Or.inr ⟨_, parseFrom_nil tbl t fs⟩
  | e :: es, t, fs, hes, hk => by
    obtain ⟨hne, hes⟩ := List.forall_mem_cons.mp hes
    obtain ⟨b, us, hops⟩ := List.exists_cons_of_ne_nil hne
    rw [parseFrom_cons hops es t hk]
    split
    · rename_i eb heb
      split
      · rename_i hus
        exact parseFrom_cases tbl es _ _ hes
          (inTable_pushUn (List.forall_mem_cons.mpr ⟨Option.isSome_iff_exists.mpr ⟨eb, heb⟩, inTable_unwind _ t hk⟩) hus)
      · exact .inl rfl
    · exact .inl rfl

theorem stackParse_noInternal (tbl : List OpEntry) (elems : List UElem) (hne : elems ≠ []) (hok : elemsOK true elems) :
    NoInternal (stackParse tbl elems) := by
  obtain ⟨e, es, rfl⟩ := List.exists_cons_of_ne_nil hne
  rw [stackParse_cons]
  split
  · rename_i hus
    rcases parseFrom_cases tbl es (.leaf e.term) _ hok.2 (inTable_pushUn (fs := []) (fun _ h => nomatch h) hus) with h | ⟨t, h⟩
    · rw [h]
      exact noInternal_runtime
    · rw [h]
      exact noInternal_ok
  · exact noInternal_runtime

end TelProofs
