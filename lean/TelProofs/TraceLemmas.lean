/-
The specification of programs on traces, under rewriting: the value of an atom at a position that may lie outside the
trace (`atPos`), with one congruence for two traces under two horizons (`atPos_congr`); monotonicity of body literals in
the here-world; and `TRule.sat` position by position (`satAt`, `sat_iff_satAt`): a rule sees the traces only through the
values of its body literals and of its head at the positions `0..h` (`sat_congr_pos`).
-/
import TelSpec.Program
import TelProofs.Quant
import TelProofs.ListLemmas

namespace TelProofs
open TelSpec

theorem atPos_in {h : Nat} {j : Int} (hj : 0 ≤ j ∧ j ≤ (h : Int)) (W : Trace) (a : String) :
    atPos h W a j = W j.toNat a := if_pos hj

theorem atPos_out {h : Nat} {j : Int} (hj : ¬ (0 ≤ j ∧ j ≤ (h : Int))) (W : Trace) (a : String) :
    atPos h W a j = false := if_neg hj

theorem atPos_true {h : Nat} {W : Trace} {a : String} {j : Int} (hp : atPos h W a j = true) : 0 ≤ j ∧ j ≤ (h : Int) :=
  Classical.byContradiction fun hj => by
    rw [atPos_out hj] at hp
    cases hp

theorem atPos_nat {h k : Nat} (hk : k ≤ h) (W : Trace) (a : String) : atPos h W a (k : Int) = W k a := by
  rw [atPos_in ⟨Int.natCast_nonneg k, Int.ofNat_le.mpr hk⟩, Int.toNat_natCast]

/-- for the literal `0 : Int`, as `litAt` writes the position of `_p` -/
theorem atPos_zero (h : Nat) (W : Trace) (a : String) : atPos h W a 0 = W 0 a := atPos_nat (Nat.zero_le h) W a

/-- two traces, each under its own horizon: the position lies within both horizons or within neither, and within them
    the traces agree on the atom -/
theorem atPos_congr {h h' : Nat} {W W' : Trace} {a : String} {j : Int} (hb : j ≤ (h : Int) ↔ j ≤ (h' : Int))
    (hv : 0 ≤ j → j ≤ (h : Int) → W j.toNat a = W' j.toNat a) : atPos h W a j = atPos h' W' a j := by
  by_cases hj : 0 ≤ j ∧ j ≤ (h : Int)
  · rw [atPos_in hj, atPos_in ⟨hj.1, hb.mp hj.2⟩, hv hj.1 hj.2]
  · rw [atPos_out hj, atPos_out fun hj' => hj ⟨hj'.1, hb.mpr hj'.2⟩]

theorem atPos_mono {h : Nat} {W T : Trace} (hle : TraceLe h W T) (a : String) (j : Int) (hp : atPos h W a j = true) :
    atPos h T a j = true := by
  have hj := atPos_true hp
  rw [atPos_in hj] at hp ⊢
  exact hle j.toNat (Int.toNat_le.mpr hj.2) a hp

theorem sign_mono (sg : Sign) {w t : Bool} (h : w = true → t = true) (hs : sg.app w t = true) : sg.app t t = true := by
  cases sg with
  | pos => exact h hs
  | _ => exact hs

theorem holds_mono {h : Nat} {W T : Trace} (hle : TraceLe h W T) (k : Nat) (l : BLit)
    (hl : l.holds h W T k = true) : l.holds h T T k = true := by
  cases l with
  | atom sg a sh => exact sign_mono sg (atPos_mono hle a _) hl
  | init sg a => exact sign_mono sg (hle 0 (Nat.zero_le _) a) hl
  | _ => exact hl

theorem body_holds_mono {h : Nat} {W T : Trace} (hle : TraceLe h W T) (k : Nat) {b : List BLit}
    (hb : b.all (BLit.holds h W T k) = true) : b.all (BLit.holds h T T k) = true :=
  all_mono (fun l _ => holds_mono hle k l) hb

def satAt (h : Nat) (W T : Trace) (r : TRule) (k : Nat) : Bool :=
  !(r.part.applies h k) || !(r.body.all (BLit.holds h W T k)) || r.head.holds h W T k

theorem sat_iff_satAt (h : Nat) (W T : Trace) (r : TRule) :
    r.sat h W T = true ↔ ∀ k, k ≤ h → satAt h W T r k = true := by
  simp only [TRule.sat, allUpTo_iff, satAt]

theorem sat_congr_pos {h : Nat} {W T W' T' : Trace} {r : TRule}
    (hb : ∀ k, k ≤ h → ∀ l ∈ r.body, l.holds h W T k = l.holds h W' T' k)
    (hh : ∀ k, k ≤ h → r.head.holds h W T k = r.head.holds h W' T' k) : r.sat h W T = r.sat h W' T' := by
  rw [Bool.eq_iff_iff, sat_iff_satAt, sat_iff_satAt]
  exact forall₂_congr fun k hk => by rw [satAt, satAt, all_congr_mem (hb k hk), hh k hk]

end TelProofs
