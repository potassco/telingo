/-
C04 (a), `head_doc_eq`: for every head-admissible surface formula, the head `create_formula` (telingo/theory/head.py)
builds from its theory term a formula (`mhead`) that has, in every world of every temporal here-and-there interpretation,
the value the specification `tht` gives the surface formula.
-/
import TelProofs.DocTerm
import TelProofs.HeadShift
import TelProofs.ThtCongr

namespace TelProofs
open TelSpec TelModel TelModel.Generated

def HeadDocEq (s : SForm) (f : HForm) : Prop :=
  noShift f = true ∧ ∀ (h : Nat) (W T : Trace) (k : Nat), k ≤ h →
    hsem h (withAdmin h W) (withAdmin h T) f k = tht h W T s k

/-- `.const false` stands for the formulas that are not head-admissible -/
def mhead : SForm → HForm
  | .atom a => .atom true a []
  | .kw .ktrue => .const true
  | .kw .kfalse => .const false
  | .kw .kinitial => .neg (.neg (.atom true "__initial" []))
  | .kw .kfinal => .neg (.neg (.atom true "__final" []))
  | .neg f => .neg (mhead f)
  | .bin .and l r => .clause2 (mhead l) (mhead r) true
  | .bin .or l r => .clause2 (mhead l) (mhead r) false
  | .next n w f => if n = 0 then mhead f else .next n (mhead f) w
  | .unt l r => .until2 (mhead l) (mhead r) true
  | .rel l r => .until2 (mhead l) (mhead r) false
  | .evF r => .until1 (mhead r) true
  | .alF r => .until1 (mhead r) false
  | .finally_ f => .until1 (.clause2 (.neg (.atom true "__final" [])) (mhead f) false) false
  | .seqNext w l r => .clause2 (mhead l) (.next 1 (mhead r) w) true
  | _ => .const false

attribute [-simp] BEq.rfl in  -- slow on comparisons of string literals: see `SemEqn`
/-- the head `create_atom` checks no primes, so the construction succeeds whatever the atoms are; `GoodAtoms` is
    needed for the semantics only -/
theorem hCreateFormula_toTerm (s : SForm) (hok : s.headOk = true) :
    hCreateFormula (toTerm s) = .ok (mhead s) := by
  induction s with
  | atom a => rfl
  | kw k => cases k <;> simp [toTerm, kwStr, mhead, hCreateFormula, unaryOperators, telOperators, kwName]
  | neg f ih | evF f ih | alF f ih | finally_ f ih =>
    simp [toTerm, mhead, hCreateFormula, unaryOperators, telOperators, pastOps, ih hok]
  | bin op l r ihl ihr =>
    cases op with
    | and | or =>
      simp only [SForm.headOk, Bool.and_eq_true] at hok
      simp [toTerm, binStr, mhead, hCreateFormula, binaryOperators, ihl hok.1, ihr hok.2]
    | limp | rimp | equiv => cases hok
  | next n w f ih =>
    by_cases hn : n = 1
    · cases w <;> simp [toTerm, mhead, hn, hCreateFormula, unaryOperators, telOperators, pastOps, ih hok]
    · cases w <;> simp [toTerm, mhead, hn, hCreateFormula, binaryOperators, telOperators, pastOps, ih hok, createOffset_num]
  | unt l r ihl ihr | rel l r ihl ihr =>
    simp only [SForm.headOk, Bool.and_eq_true] at hok
    simp [toTerm, mhead, hCreateFormula, binaryOperators, telOperators, pastOps, ihl hok.1, ihr hok.2]
  | seqNext w l r ihl ihr =>
    simp only [SForm.headOk, Bool.and_eq_true] at hok
    cases w <;> simp [toTerm, mhead, hCreateFormula, binaryOperators, telOperators, pastOps, ihl hok.1, ihr hok.2]
  | prev | since | trigger | evP | alP | initially | seqPrev => cases hok

theorem noShift_mhead (s : SForm) : noShift (mhead s) = true := by
  induction s with
  | kw k => cases k <;> rfl
  | bin op l r ihl ihr => cases op <;> simp only [mhead, noShift, ihl, ihr, Bool.and_self]
  | next n w f ih =>
    simp only [mhead]
    split <;> exact ih
  | _ => simp only [mhead, noShift, *, Bool.and_self]

theorem hsem_mhead (h : Nat) (W T : Trace) (s : SForm) (hok : s.headOk = true) (hg : GoodAtoms s) :
    ∀ k, k ≤ h → hsem h (withAdmin h W) (withAdmin h T) (mhead s) k = tht h W T s k := by
  induction s generalizing W T with
  | atom a => exact fun k _ => withAdmin_good h W k hg
  | kw w =>
    intro k _
    cases w
    · rfl
    · rfl
    -- `&initial`, `&final`: the marker atom under a double negation, so read in the there-world
    · exact (Bool.not_not _).trans (withAdmin_initial h T k)
    · exact (Bool.not_not _).trans (withAdmin_final h T k)
  | neg f ih => exact fun k hk => congrArg not (ih T T hok hg k hk)
  | bin op l r ihl ihr =>
    cases op with
    | and | or =>
      have hok := Bool.and_eq_true_iff.mp hok
      intro k hk
      rw [tht_bin, ← ihl W T hok.1 hg.1 k hk, ← ihr W T hok.2 hg.2 k hk]
      rfl
    | limp | rimp | equiv => cases hok
  | next n w f ih =>
    intro k hk
    simp only [mhead]
    split
    · subst n
      exact (ih W T hok hg k hk).trans (if_pos hk).symm
    · exact ite_congr rfl (ih W T hok hg (k + n)) fun _ => rfl
  | unt l r ihl ihr =>
    have hok := Bool.and_eq_true_iff.mp hok
    exact fun k _ => untilB_congr (ihl W T hok.1 hg.1) (ihr W T hok.2 hg.2)
  | rel l r ihl ihr =>
    have hok := Bool.and_eq_true_iff.mp hok
    exact fun k _ => releaseB_congr (ihl W T hok.1 hg.1) (ihr W T hok.2 hg.2)
  | evF r ih => exact fun k _ => evFB_congr (ih W T hok hg)
  | alF r ih => exact fun k _ => alFB_congr (ih W T hok hg)
  | finally_ f ih =>
    intro k hk
    have e : ∀ j, j ≤ h → hsem h (withAdmin h W) (withAdmin h T) (.clause2 (.neg (.atom true "__final" [])) (mhead f) false) j
        = (!(j == h) || tht h W T f j) := fun j hj => by
      rw [← ih W T hok hg j hj]
      exact congrArg (fun b => !b || hsem h (withAdmin h W) (withAdmin h T) (mhead f) j) (withAdmin_final h T j)
    exact (alFB_congr e).trans (alFB_final h _ k hk)
  | seqNext w l r ihl ihr =>
    have hok := Bool.and_eq_true_iff.mp hok
    intro k hk
    show (hsem h (withAdmin h W) (withAdmin h T) (mhead l) k &&
        if k + 1 ≤ h then hsem h (withAdmin h W) (withAdmin h T) (mhead r) (k + 1) else w)
      = (tht h W T l k && if k + 1 ≤ h then tht h W T r (k + 1) else w)
    rw [ihl W T hok.1 hg.1 k hk]
    split
    · next hle => rw [ihr W T hok.2 hg.2 (k + 1) hle]
    · rfl
  | prev | since | trigger | evP | alP | initially | seqPrev => cases hok

theorem head_doc_eq (s : SForm) (hok : s.headOk = true) (hg : GoodAtoms s) :
    ∃ f, hCreateFormula (toTerm s) = .ok f ∧ HeadDocEq s f :=
  ⟨mhead s, hCreateFormula_toTerm s hok, noShift_mhead s, fun h W T => hsem_mhead h W T s hok hg⟩

end TelProofs
