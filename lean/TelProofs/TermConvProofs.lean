/-
`theory_term_to_term` preserves the value of the term (`conv_preserves`): under every assignment of the variables the converted
plain term evaluates to what the theory term reads (arithmetic `-` / `+`, tuples, function symbols); it raises no internal error
(`convTerm_noInternal`).
-/
import TelModel.TermConv
import TelProofs.PyLemmas

namespace TelProofs
open TelModel TelModel.Generated

theorem opt_bind_some {α β} (a : α) (f : α → Option β) : (some a >>= f) = f a := rfl
theorem opt_bind_none {α β} (f : α → Option β) : ((none : Option α) >>= f) = none := rfl

theorem isNum_eval (σ : String → GVal) (p : PTerm) (n : Int) (h : p.isNum = some n) : p.eval σ = some (.num n) := by
  cases p <;> cases h
  rfl

/-- the arithmetic branches: folding constants does not change the value -/
theorem combine_eval (σ : String → GVal) (name : String) (cs : List PTerm) (h : isArith name cs.length = true) :
    (combine name cs).eval σ = (PTerm.evalL σ cs >>= gCombine name) := by
  match cs, h with
  | [rhs], _ =>
    simp only [combine, PTerm.evalL]
    split
    · rename_i n hn
      rw [isNum_eval σ rhs n hn]
      rfl
    · simp only [PTerm.eval]
      cases rhs.eval σ <;> rfl
  | [lhs, rhs], _ =>
    simp only [combine, PTerm.evalL]
    split
    · rename_i l r hl hr
      rw [isNum_eval σ lhs l hl, isNum_eval σ rhs r hr]
      rfl
    · simp only [PTerm.eval]
      cases lhs.eval σ <;> cases rhs.eval σ <;> rfl
  | [], h | _ :: _ :: _ :: _, h => simp [isArith] at h

theorem convs_length (tbl : List OpEntry) : ∀ (ts : List HTerm) (ps : List PTerm),
    convTerms tbl ts = .ok ps → ps.length = ts.length
  | [], ps => by
    intro h
    cases h
    rfl
  | t :: ts, ps => by
    intro h
    simp only [convTerms, bind_eq_ok, py_pure, Except.ok.injEq] at h
    obtain ⟨p1, _, p2, h2, rfl⟩ := h
    simp only [List.length_cons, convs_length tbl ts p2 h2]

mutual
theorem conv_preserves (tbl : List OpEntry) (σ : String → GVal) : ∀ (t : HTerm) (p : PTerm),
    convTerm tbl t = .ok p → p.eval σ = t.eval σ
  | .num _, _ | .var _, _ | .sym _, _ => by
    intro h
    cases h
    rfl
  | .seq _, p => nofun
  | .tuple args, p => by
    intro h
    simp only [convTerm, bind_eq_ok, py_pure, Except.ok.injEq] at h
    obtain ⟨cs, hc, rfl⟩ := h
    simp only [PTerm.eval, HTerm.eval, convs_preserve tbl σ args cs hc]
  | .fn name args, p => by
    intro h
    simp only [convTerm] at h
    split at h
    · rename_i ha
      simp only [bind_eq_ok, py_pure, Except.ok.injEq] at h
      obtain ⟨cs, hc, rfl⟩ := h
      rw [combine_eval σ name cs (convs_length tbl args cs hc ▸ ha)]
      simp only [HTerm.eval, if_pos ha, convs_preserve tbl σ args cs hc]
    · rename_i ha
      split at h
      · cases h
      · simp only [bind_eq_ok, py_pure, Except.ok.injEq] at h
        obtain ⟨cs, hc, rfl⟩ := h
        simp only [PTerm.eval, HTerm.eval, if_neg ha, convs_preserve tbl σ args cs hc]
theorem convs_preserve (tbl : List OpEntry) (σ : String → GVal) : ∀ (ts : List HTerm) (ps : List PTerm),
    convTerms tbl ts = .ok ps → PTerm.evalL σ ps = HTerm.evalL σ ts
  | [], ps => by
    intro h
    cases h
    rfl
  | t :: ts, ps => by
    intro h
    simp only [convTerms, bind_eq_ok, py_pure, Except.ok.injEq] at h
    obtain ⟨p1, h1, p2, h2, rfl⟩ := h
    simp only [PTerm.evalL, HTerm.evalL, conv_preserves tbl σ t p1 h1, convs_preserve tbl σ ts p2 h2]
end

mutual
theorem convTerm_noInternal (tbl : List OpEntry) : ∀ t : HTerm, NoInternal (convTerm tbl t)
  | .num _ | .var _ | .sym _ | .seq _ => by simp only [convTerm, noint]
  | .tuple args | .fn _ args => by simp only [convTerm, noint, convTerms_noInternal tbl args]
theorem convTerms_noInternal (tbl : List OpEntry) : ∀ ts : List HTerm, NoInternal (convTerms tbl ts)
  | [] => by simp only [convTerms, noint]
  | t :: ts => by simp only [convTerms, noint, convTerm_noInternal tbl t, convTerms_noInternal tbl ts]
end

end TelProofs
