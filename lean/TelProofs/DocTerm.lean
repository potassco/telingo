/-
What the statements about `create_formula` of the body (`DocEq`), of the head (`HeadDocEq`) and about
`create_dynamic_formula` (`DelDocEq`) share: the fully parenthesised theory term of a surface formula (`toTerm`), the atom
names on which the code and the specification agree (`GoodAtom`), and the trace as the implementation sees it (`withAdmin`).
-/
import TelModel.BodySem
import TelProofs.PyLemmas

namespace TelProofs
open TelSpec TelModel

def kwStr : Kw → String
  | .ktrue => "true" | .kfalse => "false" | .kinitial => "initial" | .kfinal => "final"

def binStr : BinOp → String
  | .and => "&" | .or => "|" | .limp => "<-" | .rimp => "->" | .equiv => "<>"

def toTerm : SForm → TTerm
  | .atom a => .sym a
  | .kw k => .fn "&" [.sym (kwStr k)]
  | .neg f => .fn "~" [toTerm f]
  | .bin op l r => .fn (binStr op) [toTerm l, toTerm r]
  | .prev n w f => if n = 1 then .fn (if w then "<:" else "<") [toTerm f]
                   else .fn (if w then "<:" else "<") [.num n, toTerm f]
  | .next n w f => if n = 1 then .fn (if w then ">:" else ">") [toTerm f]
                   else .fn (if w then ">:" else ">") [.num n, toTerm f]
  | .since l r => .fn "<?" [toTerm l, toTerm r]
  | .trigger l r => .fn "<*" [toTerm l, toTerm r]
  | .evP r => .fn "<?" [toTerm r]
  | .alP r => .fn "<*" [toTerm r]
  | .unt l r => .fn ">?" [toTerm l, toTerm r]
  | .rel l r => .fn ">*" [toTerm l, toTerm r]
  | .evF r => .fn ">?" [toTerm r]
  | .alF r => .fn ">*" [toTerm r]
  | .initially f => .fn "<<" [toTerm f]
  | .finally_ f => .fn ">>" [toTerm f]
  | .seqPrev w l r => .fn (if w then "<:;" else "<;") [toTerm l, toTerm r]
  | .seqNext w l r => .fn (if w then ";>:" else ";>") [toTerm l, toTerm r]

/-- a propositional user atom: a name the code accepts as an atom and that is not one of the
    two auxiliary state markers -/
def GoodAtom (a : String) : Prop :=
  a ≠ "" ∧ startsWithChar a '\'' = false ∧ endsWithChar a '\'' = false ∧ a ≠ "__initial" ∧ a ≠ "__final"

def GoodAtoms : SForm → Prop
  | .atom a => GoodAtom a
  | .kw _ => True
  | .neg f => GoodAtoms f
  | .bin _ l r => GoodAtoms l ∧ GoodAtoms r
  | .prev _ _ f => GoodAtoms f
  | .next _ _ f => GoodAtoms f
  | .since l r => GoodAtoms l ∧ GoodAtoms r
  | .trigger l r => GoodAtoms l ∧ GoodAtoms r
  | .evP r => GoodAtoms r
  | .alP r => GoodAtoms r
  | .unt l r => GoodAtoms l ∧ GoodAtoms r
  | .rel l r => GoodAtoms l ∧ GoodAtoms r
  | .evF r => GoodAtoms r
  | .alF r => GoodAtoms r
  | .initially f => GoodAtoms f
  | .finally_ f => GoodAtoms f
  | .seqPrev _ l r => GoodAtoms l ∧ GoodAtoms r
  | .seqNext _ l r => GoodAtoms l ∧ GoodAtoms r

/-- the trace as the implementation sees it: user atoms plus `__initial` at 0 and `__final` at h -/
def withAdmin (h : Nat) (tr : Trace) : Trace :=
  fun k a => if a = "__initial" then k == 0 else if a = "__final" then k == h else tr k a

theorem createAtom_good (a : String) (hg : GoodAtom a) : createAtom (.sym a) true = .ok (.atom a [] true) := by
  simp [createAtom, mkAtom, hg.2.1, hg.2.2.1]

theorem atomKey_prop {a : String} (h : a ≠ "") : atomKey a [] true = a := by
  simp [atomKey, Sym.toStr, h]

theorem withAdmin_good (h : Nat) (tr : Trace) (k : Nat) {a : String} (hg : GoodAtom a) :
    withAdmin h tr k (atomKey a [] true) = tr k a := by
  rw [atomKey_prop hg.1, withAdmin, if_neg hg.2.2.2.1, if_neg hg.2.2.2.2]

theorem withAdmin_initial (h : Nat) (tr : Trace) (k : Nat) : withAdmin h tr k (atomKey "__initial" [] true) = (k == 0) := by
  rw [atomKey_prop (by decide)]
  rfl

theorem withAdmin_final (h : Nat) (tr : Trace) (k : Nat) : withAdmin h tr k (atomKey "__final" [] true) = (k == h) := by
  rw [atomKey_prop (by decide)]
  rfl

theorem createOffset_num (n : Nat) : createOffset (.num (n : Int)) = .ok n := by
  simp [createOffset, createNumber]

end TelProofs
