/-
C06: `translate_elements` builds the conjunction, over the ground elements of a theory atom, of
"condition implies element formula" — whatever the number and order of the elements (it sorts by representation).
-/
import TelProofs.PyLemmas
import TelProofs.SemEqn

namespace TelProofs
open TelSpec TelModel

variable (h : Nat) (tr : Trace) (lv : Int → Bool) (k : Nat)

theorem all_insertByRep (p : BForm → Bool) (x : BForm) (l : List BForm) :
    (insertByRep x l).all p = (p x && l.all p) := by
  induction l with
  | nil => rfl
  | cons y ys ih =>
    simp only [insertByRep]
    split
    · rfl
    · rw [List.all_cons, ih, List.all_cons, Bool.and_left_comm]

theorem all_sortByRep (p : BForm → Bool) (l : List BForm) : (sortByRep l).all p = l.all p := by
  induction l with
  | nil => rfl
  | cons y ys ih =>
    simp only [sortByRep, List.foldr_cons] at ih ⊢
    rw [all_insertByRep, ih]
    rfl

theorem sem_foldl_and (f : BForm) (rest : List BForm) :
    (rest.foldl (fun acc x => BForm.bin "&" acc x) f).sem h tr lv k = (f.sem h tr lv k && rest.all fun g => g.sem h tr lv k) := by
  induction rest generalizing f with
  | nil => exact (Bool.and_true _).symm
  | cons g gs ih =>
    rw [List.foldl_cons, ih, List.all_cons, ← Bool.and_assoc]
    rfl

theorem sem_conj (fs : List BForm) :
    (translateConjunction fs).sem h tr lv k = fs.all fun f => f.sem h tr lv k := by
  unfold translateConjunction
  rw [← all_sortByRep (fun f => f.sem h tr lv k) fs]
  cases sortByRep fs with
  | nil => rfl
  | cons f rest => simp only [sem_foldl_and, List.all_cons]

def elemSem (f : BForm) (cond : List Int) : Bool := !(cond.all lv) || f.sem h tr lv k

theorem sem_cond (cond : List Int) : (translateConjunction (cond.map BForm.numLit)).sem h tr lv k = cond.all lv := by
  rw [sem_conj, List.all_map]
  rfl

theorem element_sem (e : TElem) (dyn : Bool) (f w : BForm)
    (hf : (if dyn then createDynamicFormula e.term else createFormula e.term) = .ok f)
    (hw : elemFormula e dyn = .ok w) : w.sem h tr lv k = elemSem h tr lv k f e.cond := by
  rw [elemFormula, hf, ok_bind] at hw
  split at hw
  · cases hw
    rw [sem_bin, binSem_rimp, sem_cond]
    rfl
  · next hc =>
    cases hw
    rw [elemSem, List.eq_nil_of_length_eq_zero (Nat.eq_zero_of_not_pos hc)]
    rfl

theorem elements_sem (els : List TElem) (dyn : Bool) (f : BForm) (hf : translateElements els dyn = .ok f) :
    ∃ ws, els.mapM (fun e => elemFormula e dyn) = .ok ws ∧ f.sem h tr lv k = ws.all fun w => w.sem h tr lv k := by
  obtain ⟨ws, hws, hf⟩ := bind_eq_ok.mp hf
  cases hf
  exact ⟨ws, hws, sem_conj h tr lv k ws⟩

end TelProofs
