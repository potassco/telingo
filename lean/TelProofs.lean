import TelProofs.Props.C01
import TelProofs.Props.C02
import TelProofs.Props.C03
import TelProofs.Props.C04
import TelProofs.Props.C05
import TelProofs.Props.C06
import TelProofs.Props.C07
import TelProofs.Props.C08
import TelProofs.Props.C09
import TelProofs.Props.C10
import TelProofs.Props.C11
import TelProofs.Props.C12
import TelProofs.Props.C13
import TelProofs.Props.C14
import TelProofs.Props.C15
import TelProofs.Props.C16
import TelProofs.Props.C17
